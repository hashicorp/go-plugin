import GoPlugin.Model.MuxBroker
import GoPlugin.Lemmas.Run
/-
`step` as a relation: one constructor per way an event can succeed, carrying the facts the
`match`es of `step` established.  Every invariant is proved by cases on `Step`.  Only soundness is proved
(`Step.of_step`: a successful `step` is a `Step`), so statements that a step CAN fire (`progress`, the
establishment theorems of Props/C06) evaluate `step` directly.  Before it, what the setters, `getStream` and
`drain` do (the lookup lemmas of `upd` are those of Lemmas/Run.lean).
-/
namespace GoPlugin.MuxBroker

/- Each of `setStream`, `setSlot`, `setAcc`, `setTw` is a record update `field := upd field i ((field i).map g)`,
so the lemmas about that shape (`upd_map_eq_some`, `forall_upd_map`) apply to the setters' fields by reduction, and
every other field of the result is the old one by reduction too. -/

theorem setStream_streams_self {s : State} {sid : Nat} {x : Stream} (hx : s.streams sid = some x) (st : StreamSt) :
    (setStream s sid st).streams sid = some { x with st := st } :=
  upd_map_eq_some.2 ⟨x, hx, (if_pos rfl).symm⟩

theorem getStream_cases (s : State) (id : Nat) :
    (∃ k, s.map id = some k ∧ getStream s id = (s, k)) ∨
    (s.map id = none ∧ getStream s id =
      ({ s with map := upd s.map id (some s.nSlots), slots := upd s.slots s.nSlots (some ⟨id, none, false⟩),
                nSlots := s.nSlots + 1 }, s.nSlots)) := by
  unfold getStream
  cases hm : s.map id with
  | some k => exact .inl ⟨k, rfl, rfl⟩
  | none => exact .inr ⟨rfl, rfl⟩

section
variable (s : State) (id : Nat)
@[simp] theorem getStream_streams : (getStream s id).1.streams = s.streams := by unfold getStream; split <;> rfl
@[simp] theorem getStream_accs : (getStream s id).1.accs = s.accs := by unfold getStream; split <;> rfl
@[simp] theorem getStream_nAccs : (getStream s id).1.nAccs = s.nAccs := by unfold getStream; split <;> rfl
@[simp] theorem getStream_tws : (getStream s id).1.tws = s.tws := by unfold getStream; split <;> rfl
@[simp] theorem getStream_queue : (getStream s id).1.queue = s.queue := by unfold getStream; split <;> rfl
@[simp] theorem getStream_now : (getStream s id).1.now = s.now := by unfold getStream; split <;> rfl
end

theorem drain_eq_some (s : State) (k : Nat) (sl : Slot) (sid : Nat) (hk : s.slots k = some sl) (hb : sl.buf = some sid) :
    drain s k = setStream (setSlot s k (fun x => { x with buf := none })) sid .closed := by
  simp [drain, hk, hb]

theorem drain_eq_none (s : State) (k : Nat) (h : ∀ sl, s.slots k = some sl → sl.buf = none) : drain s k = s := by
  unfold drain
  cases hk : s.slots k with
  | none => rfl
  | some sl => simp [h sl hk]

/-- the `let s1` of `step`'s `runPark`: `Run` is back at the top of its loop, a `timeoutWait` for slot `k` has started -/
abbrev parkStart (P : Params) (s : State) (id k : Nat) : State :=
  { s with run := .idle, tws := upd s.tws s.nTws (some ⟨id, k, s.now + P.expiryWindow, .wait⟩), nTws := s.nTws + 1 }

inductive Step (P : Params) (s : State) : Event → State → Prop
  | dial (id : Nat) : Step P s (.dial id)
      { s with streams := upd s.streams s.nStreams (some ⟨id, .queued⟩), nStreams := s.nStreams + 1,
               queue := s.queue ++ [s.nStreams] }
  | runTake {sid q x} (hrun : s.run = .idle) (hq : s.queue = sid :: q)
      (hl : s.lock = none) (hx : s.streams sid = some x) : Step P s .runTake
      (setStream { (getStream { s with queue := q } x.id).1 with
                   run := .have x.id (getStream { s with queue := q } x.id).2 sid } sid .held)
  | runPark {id k sid sl} (hrun : s.run = .have id k sid) (hk : s.slots k = some sl)
      (hb : sl.buf = none) : Step P s .runPark
      (setStream (setSlot (parkStart P s id k) k (fun x => { x with buf := some sid })) sid (.parked k))
  | runDrop {id k sid sl sid'} (hrun : s.run = .have id k sid) (hk : s.slots k = some sl)
      (hb : sl.buf = some sid') : Step P s .runPark
      (setStream (parkStart P s id k) sid (if P.runClosesDropped then .closed else .dropped))
  | abort (hrun : s.run = .idle) : Step P s .abort (if P.headerErrorContinues then s else { s with run := .dead })
  | accept (id : Nat) (hl : s.lock = none) : Step P s (.accept id)
      { (getStream s id).1 with
        accs := upd (getStream s id).1.accs s.nAccs (some ⟨id, (getStream s id).2, s.now + P.acceptWindow, .wait⟩),
        nAccs := s.nAccs + 1 }
  | accPanic {g a sl sid} (ha : s.accs g = some a) (hpc : a.pc = .wait)
      (hk : s.slots a.slot = some sl) (hb : sl.buf = some sid) (hd : sl.done = true) : Step P s (.accTake g)
      (setAcc (setSlot s a.slot (fun x => { x with buf := none })) g .panicked)
  | accTake {g a sl sid} (ha : s.accs g = some a) (hpc : a.pc = .wait)
      (hk : s.slots a.slot = some sl) (hb : sl.buf = some sid) (hd : sl.done = false) : Step P s (.accTake g)
      (setAcc (setStream (setSlot s a.slot (fun x => { x with buf := none, done := true })) sid (.taken g)) g (.took sid))
  | accTimeout {g a} (ha : s.accs g = some a) (hl : s.lock = none) (hpc : a.pc = .wait)
      (hd : a.deadline ≤ s.now) : Step P s (.accTimeout g) (setAcc { s with map := upd s.map a.id none } g .timedOut)
  | twDone {t w sl} (hw : s.tws t = some w) (hpc : w.pc = .wait)
      (hk : s.slots w.slot = some sl) (hd : sl.done = true) : Step P s (.twDone t) (setTw s t (.decided false))
  | twTimer {t w} (hw : s.tws t = some w) (hpc : w.pc = .wait) (hd : w.deadline ≤ s.now) :
      Step P s (.twTimer t) (setTw s t (.decided true))
  /-- the final section finds a stream in the slot and closes it (`drain` unfolded) -/
  | twFinishDrain {t w timeout sl sid} (hw : s.tws t = some w)
      (hl : s.lock = none) (hpc : w.pc = .decided timeout) (hk : s.slots w.slot = some sl)
      (hc : (timeout || P.expiryDrainsAlways) = true) (hb : sl.buf = some sid) : Step P s (.twFinish t)
      (setTw (setStream (setSlot { s with map := upd s.map w.id none } w.slot (fun x => { x with buf := none })) sid .closed)
        t .finished)
  /-- the final section does not look into the slot, or finds it empty and has a `default` arm -/
  | twFinishSkip {t w timeout sl} (hw : s.tws t = some w) (hl : s.lock = none)
      (hpc : w.pc = .decided timeout) (hk : s.slots w.slot = some sl)
      (hc : (timeout || P.expiryDrainsAlways) = false ∨ (sl.buf = none ∧ P.expiryRecvHasDefault = true)) :
      Step P s (.twFinish t) (setTw { s with map := upd s.map w.id none } t .finished)
  | twBlock {t w timeout sl} (hw : s.tws t = some w) (hl : s.lock = none)
      (hpc : w.pc = .decided timeout) (hk : s.slots w.slot = some sl)
      (hc : (timeout || P.expiryDrainsAlways) = true) (hb : sl.buf = none) (hdf : P.expiryRecvHasDefault = false) :
      Step P s (.twFinish t) (setTw { s with map := upd s.map w.id none, lock := some t } t .blocked)
  | twUnblock {t w sl sid} (hw : s.tws t = some w) (hl : s.lock = some t)
      (hpc : w.pc = .blocked) (hk : s.slots w.slot = some sl) (hb : sl.buf = some sid) : Step P s (.twUnblock t)
      (setTw { setStream (setSlot s w.slot (fun x => { x with buf := none })) sid .closed with lock := none } t .finished)
  | tick (d : Nat) : Step P s (.tick d) { s with now := s.now + d }

/-- the one place where the `match`es of `step` are taken apart: by its branches (`fun_cases`), of which those not
listed return `none`.  The names after `case caseN` go to the LAST hypotheses of the branch; a `_` among them stands
for the `let`-bound intermediate state of `step`. -/
theorem Step.of_step {P : Params} {s s' : State} {e : Event} (hs : step P s e = some s') : Step P s e s' := by
  revert hs
  fun_cases step P s e <;> intro hs <;> cases hs
  case case1 id => exact .dial id
  case case2 sid q hl hq hrun x hx _ => exact .runTake hrun hq hl hx
  case case5 id k sid hrun sl hk _ hb => exact .runPark hrun hk hb
  case case6 id k sid hrun sl hk _ sid' hb => exact .runDrop hrun hk hb
  case case9 hrun => exact .abort hrun
  case case11 id hl _ => exact .accept id hl
  case case13 g a ha sl hk hpc sid hb hd => exact .accPanic ha hpc hk hb hd
  case case14 g a ha sl hk hpc sid hb hd => exact .accTake ha hpc hk hb (by simpa using hd)
  case case18 g a hl ha hd => exact .accTimeout ha hl hd.1 hd.2
  case case21 t w hw sl hk hpc hd => exact .twDone hw hpc hk hd
  case case25 t w hw hd => exact .twTimer hw hd.1 hd.2
  case case28 t w hl hw timeout sl hk hpc _ hc sid hb =>
    rw [drain_eq_some { s with map := upd s.map w.id none } w.slot sl sid hk hb]
    exact .twFinishDrain hw hl hpc hk hc hb
  case case29 t w hl hw timeout sl hk hpc _ hc hb hdf => exact .twFinishSkip hw hl hpc hk (.inr ⟨hb, hdf⟩)
  case case30 t w hl hw timeout sl hk hpc _ hc hb hdf => exact .twBlock hw hl hpc hk hc hb (by simpa using hdf)
  case case31 t w hl hw timeout sl hk hpc _ hc => exact .twFinishSkip hw hl hpc hk (.inl (by simpa using hc))
  case case34 t w h hl hw hh sl hk sid hb =>
    rw [drain_eq_some s w.slot sl sid hk hb]
    exact .twUnblock hw (hh.1 ▸ hl) hh.2 hk hb
  case case39 d => exact .tick d

end GoPlugin.MuxBroker
