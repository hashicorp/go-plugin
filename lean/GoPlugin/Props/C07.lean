import GoPlugin.Lemmas.GrpcBroker
/-
C07 — GRPCBroker connects Dial(id) only to the server accepted on that id
(gRPC without multiplexing; the multiplexed variant is C08).

Quantifiers: every reachable state = every finite history of accepts and
dials on any number of ids, every interleaving of `Run`, the expiry goroutines
and the diallers, every timer order.  One direction of one connection; the
other direction is an independent instance (its own stream of conn-info
messages and its own `clientStreams`).  TLS is orthogonal (C12); the gRPC
transport (a call on a connection dialled to a listener's address is answered
by the server serving that listener) is assumed.
-/
namespace GoPlugin.Props.C07
open GrpcBroker

/-- **Dial(n) only ever dials a listener that an Accept(n) created**: calls on the
returned connection are answered by the server accepted on id n and by no other. -/
theorem dial_reaches_accepted_listener (P : Params) (hP : P.Good) (s : State) (h : Reachable P s)
    (g : Nat) (d : Dial) (a : Nat) (hd : s.dials g = some d) (hpc : d.pc = .dialled a) :
    s.listeners a = some ⟨d.id⟩ :=
  (consistent_of_reachable P s h).dialled_ok hP.dialsReceivedAddr g d hd a hpc

/-- Conn-info parked for id n sits in the slot for n and names a listener accepted for n. -/
theorem parked_info_is_for_its_id (P : Params) (s : State) (h : Reachable P s)
    (k : Nat) (sl : Slot) (m : Msg) (hk : s.slots k = some sl) (hb : sl.buf = some m) :
    s.listeners m.addr = some ⟨m.sid⟩ ∧ m.sid = sl.id :=
  (consistent_of_reachable P s h).buf_ok k sl hk m hb

/-- Both orders of one establishment, from any state with an idle `Run`, an empty wire and no pending entry for `n`:
of the structural facts only two are used — `Run` files conn-info under the service id, and the dial uses the
address it received. -/
theorem establish_of_facts (P : Params) (hFilesById : P.filesUnderServiceId = true) (hDialsAddr : P.dialsReceivedAddr = true)
    (s : State) (n : Nat) (hfresh : s.map n = none) (hrun : s.run = .idle) (hw : s.wire = []) :
    (∃ s', runFrom P s [.accept n, .runRecv, .runPark, .dial n, .dialTake s.nDials] = some s' ∧
      (s'.dials s.nDials).map (·.pc) = some (.dialled s.nListeners) ∧
      s'.listeners s.nListeners = some ⟨n⟩) ∧
    (∃ s', runFrom P s [.dial n, .accept n, .runRecv, .runPark, .dialTake s.nDials] = some s' ∧
      (s'.dials s.nDials).map (·.pc) = some (.dialled s.nListeners) ∧
      s'.listeners s.nListeners = some ⟨n⟩) := by
  constructor <;> simp [runFrom, step, getStream, upd, hfresh, hrun, hw, hFilesById, hDialsAddr]

/-- **Accept first, dial within the window**: the dial receives the conn-info of exactly the
listener this accept created (index `s.nListeners`) and dials it. -/
theorem accept_then_dial_succeeds (P : Params) (hP : P.Good) (s : State) (n : Nat)
    (hfresh : s.map n = none) (hrun : s.run = .idle) (hw : s.wire = []) :
    ∃ s', runFrom P s [.accept n, .runRecv, .runPark, .dial n, .dialTake s.nDials] = some s' ∧
      (s'.dials s.nDials).map (·.pc) = some (.dialled s.nListeners) ∧
      s'.listeners s.nListeners = some ⟨n⟩ :=
  (establish_of_facts P hP.filesUnderServiceId hP.dialsReceivedAddr s n hfresh hrun hw).1

/-- **Dial first, accept within the window**: same outcome. -/
theorem dial_then_accept_succeeds (P : Params) (hP : P.Good) (s : State) (n : Nat)
    (hfresh : s.map n = none) (hrun : s.run = .idle) (hw : s.wire = []) :
    ∃ s', runFrom P s [.dial n, .accept n, .runRecv, .runPark, .dialTake s.nDials] = some s' ∧
      (s'.dials s.nDials).map (·.pc) = some (.dialled s.nListeners) ∧
      s'.listeners s.nListeners = some ⟨n⟩ :=
  (establish_of_facts P hP.filesUnderServiceId hP.dialsReceivedAddr s n hfresh hrun hw).2

/-- A dial whose peer never accepts returns (an error) once its window has passed: the
timer arm is always enabled at the deadline. -/
theorem unmatched_dial_times_out (P : Params) (s : State) (g : Nat) (d : Dial)
    (hd : s.dials g = some d) (hpc : d.pc = .wait) (hdl : d.deadline ≤ s.now) :
    (step P s (.dialTimeout g)).isSome := by
  simp [step, hd, hpc, hdl]

/-- **`Run` is never blocked**: with the non-blocking hand-off no history — duplicate accepts on one id,
accepts nobody dials — can stop the loop that files conn-info, so accept/dial pairs on fresh ids keep working. -/
theorem run_never_blocked (P : Params) (hP : P.Good) (s : State) (h : Reachable P s) :
    ∀ k m, s.run ≠ .blocked k m := by
  refine reachable_induction (Inv := fun s => ∀ k m, s.run ≠ .blocked k m) (fun _ _ => nofun) ?_ s h
  intro s e s' hi hs
  revert hs
  -- branch numbers of `step`: legend in Lemmas/GrpcBroker.lean, above `consistent_step`
  fun_cases step P s e <;> intro hs <;> cases hs
  case case2 | case4 | case5 | case9 => exact fun _ _ => nofun
  case case6 hb => exact absurd hP.runParkNonBlocking hb
  case case15 id r =>
    obtain ⟨_, _, _, _, e⟩ := getStream_frame s id
    rw [e]
    exact hi
  -- the other events leave `run` alone
  all_goals exact hi

/-! ### Witnesses: the structural facts are needed -/

/-- If the dial ignored the received address (here: dialled a fixed one), Dial(6) would reach the
listener accepted for id 5. -/
theorem wrong_addr_witness :
    ∃ s, runFrom ⟨true, false, true, true, 1, 5000, 5000⟩ init [.accept 5, .accept 6, .runRecv, .runPark, .runRecv, .runPark, .dial 6, .dialTake 0] = some s ∧
      (s.dials 0).map (·.pc) = some (.dialled 0) ∧ s.listeners 0 = some ⟨5⟩ :=
  exists_some_of_any (by decide)

/-- If `Run` filed conn-info under `serverStreams`, a matched Accept(5)/Dial(5) pair would never
connect: the dial cannot receive and can only time out. -/
theorem wrong_map_witness :
    ∃ s, runFrom ⟨false, true, true, true, 1, 5000, 5000⟩ init [.accept 5, .runRecv, .runPark, .dial 5] = some s ∧
      step ⟨false, true, true, true, 1, 5000, 5000⟩ s (.dialTake 0) = none :=
  exists_some_of_any (by decide)

/-- With a blocking hand-off, two accepts on one id that nobody dials stop `Run` for good: a later matched
Accept(6)/Dial(6) never connects (the former shape of a seeded change). -/
theorem blocking_send_witness :
    ∃ s, runFrom ⟨true, true, false, true, 1, 5000, 5000⟩ init [.accept 5, .accept 5, .runRecv, .runPark, .runRecv, .runPark, .accept 6, .dial 6] = some s ∧
      s.run = .blocked 0 ⟨5, 1⟩ ∧ step ⟨true, true, false, true, 1, 5000, 5000⟩ s .runRecv = none ∧
      step ⟨true, true, false, true, 1, 5000, 5000⟩ s (.dialTake 0) = none :=
  exists_some_of_any (by decide)

/-- If `getClientStream` looks up and inserts in different critical sections, a Dial racing with the arriving
conn-info ends up waiting on an entry of its own: simultaneous Accept(5)/Dial(5) time out. -/
theorem racy_getstream_witness :
    ∃ s, runFrom ⟨true, true, true, false, 1, 5000, 5000⟩ init [.accept 5, .runRecv, .dialRacy 5, .runPark] = some s ∧
      step ⟨true, true, true, false, 1, 5000, 5000⟩ s (.dialTake 0) = none :=
  exists_some_of_any (by decide)

def pGood : Params := ⟨true, true, true, true, 1, 5000, 5000⟩

/-- three ids outstanding, one duplicate accept, one expired: Dial(2) still reaches listener 1 (accepted for 2) -/
example : ∃ s, runFrom pGood init
    [.accept 1, .accept 2, .accept 2, .dial 3, .runRecv, .runPark, .runRecv, .runPark, .runRecv, .runPark,
     .dial 2, .dialTake 1, .tick 5000, .dialTimeout 0] = some s ∧
    (s.dials 1).map (·.pc) = some (.dialled 1) ∧ s.listeners 1 = some ⟨2⟩ ∧ (s.dials 0).map (·.pc) = some .timedOut :=
  exists_some_of_any (by decide)

/-- a waiting `Dial` is due at most `dialWindow` ms from now (its deadline was set once, the clock only advances), and
once due its timeout step is enabled — it does not wait on anything else; likewise every parked conn-info expires at
most `expiryWindow` ms from now.  Holds for every `Params`; the windows themselves are extracted (5000 ms). -/
theorem dial_due_within_window (P : Params) (s : State) (h : Reachable P s) :
    (∀ g (d : Dial), s.dials g = some d → d.pc = .wait →
        d.deadline ≤ s.now + P.dialWindow ∧ (d.deadline ≤ s.now → (step P s (.dialTimeout g)).isSome)) ∧
    (∀ t (w : Tw), s.tws t = some w → w.deadline ≤ s.now + P.expiryWindow) := by
  have ht := timed_of_reachable P s h
  exact ⟨fun g d hg hw => ⟨ht.dial g d hg, unmatched_dial_times_out P s g d hg hw⟩, ht.tw⟩

/-- **The connection dialled for id n is dialled to n's listener**, whatever other dial runs concurrently with the
same caller-supplied option slice and however their writes interleave. -/
theorem dial_reaches_own_id (D : DialParams) (hD : D.Good) (id other : Nat) (b : Bool) : dialReaches D id other b = id := by
  simp [dialReaches, hD.optsFresh]

/-- **Unmatched dials do not queue behind one another**: however many other dials are waiting, a dial returns within one
window of its own start (so a fresh pair issued meanwhile is not starved past its conn-info's expiry). -/
theorem dial_not_serialised (D : DialParams) (hD : D.Good) (window k : Nat) : dialReturnsBy D window k = window := by
  simp [dialReturnsBy, hD.waitsUnlocked]

/-- a broker-wide mutex held across the wait: the third of three unmatched dials returns after 15 s -/
theorem serialised_dials_witness : dialReturnsBy ⟨true, false, true, true⟩ 5000 2 = 15000 := by decide

/-- appending the per-id dialer onto the caller's slice: two concurrent dials with a shared slice, and the connection
for id 101 is dialled to id 125's listener -/
theorem shared_opts_witness : dialReaches ⟨false, true, true, true⟩ 101 125 true = 125 := by decide

/-- **The two directions do not disturb each other**: accepting a number on one side leaves that side's dial state for
the same number (the other direction's ID) exactly as it was. -/
theorem accept_leaves_dial_state (D : DialParams) (hD : D.Good) (n m : Nat) (filed : Bool) :
    dialStateAfterAccept D n m filed = filed := by
  simp [dialStateAfterAccept, hD.acceptLeavesDialState]

/-- Witness: an accept that "tidies up" what is filed under its number throws away the connection info the other
direction's dial of the same number needs -/
theorem accept_clears_witness : dialStateAfterAccept ⟨true, true, false, true⟩ 7 7 true = false := by decide

end GoPlugin.Props.C07
