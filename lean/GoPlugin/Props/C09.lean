import GoPlugin.Lemmas.MuxBroker
import GoPlugin.Lemmas.GrpcBroker
import GoPlugin.Lemmas.GrpcMux
/-
C09 — Brokers stay live: unmatched, duplicate or late peers cannot wedge them
(the net/rpc `MuxBroker` first; the gRPC brokers' facts at the end of the file).

Quantifiers: every fact record `P` with `P.Good`, every finite event sequence
(= every history of dials, accepts, duplicate dials, timer firings in any
order, every interleaving of the broker's goroutines).
-/
namespace GoPlugin.Props.C09
open MuxBroker

/-- A goroutine holds the broker mutex across a blocking operation. -/
def LockWedged (s : State) : Prop := s.lock ≠ none

instance (s : State) : Decidable (LockWedged s) := by unfold LockWedged; exact inferInstance

/-- **No history wedges the broker mutex**: with a `default` arm on the expiry
receive, in every reachable state the mutex is free between events (no goroutine
holds it across a blocking operation), whatever the history of unmatched dials,
repeated dials to one id, accept timeouts and accepts at the expiry instant. -/
theorem no_lock_wedge (P : Params) (hP : P.Good) (s : State) (h : Reachable P s) : ¬ LockWedged s :=
  fun hw => hw (consistent_live_of_reachable P hP s h).2.lock_free

/-- A stream that is neither delivered nor closed and that nobody will close:
its dialler waits for ever. -/
def Leaked (s : State) (sid : Nat) : Prop :=
  ∃ x, s.streams sid = some x ∧
    (x.st = .dropped ∨
     ∃ k sl, x.st = .parked k ∧ s.slots k = some sl ∧ sl.buf = some sid ∧
       ∀ (t : Nat) (w : Tw), s.tws t = some w → w.slot = k → ¬ TwLive w)

/-- **No stream leaks**: every stream the peer opens is, in every reachable state,
in transit to `Run`, delivered to an `Accept`, closed, or parked in a slot that
still has a live `timeoutWait` (which closes it at expiry).  So a `Dial` whose
peer never accepts gets its stream closed — it returns an error — instead of
waiting for ever. -/
theorem no_stream_leaks (P : Params) (hP : P.Good) (s : State) (h : Reachable P s) (sid : Nat) :
    ¬ Leaked s sid := by
  obtain ⟨hc, hl⟩ := consistent_live_of_reachable P hP s h
  rintro ⟨x, hx, hd | ⟨k, sl, _, hk, hb, hno⟩⟩
  · exact hl.not_dropped sid x hx hd
  · obtain ⟨t, w, hw, hws, hwl⟩ := hl.buf_tw k sl sid hk hb
    exact hno t w hw hws hwl

/-- **Progress**: in every reachable state each broker goroutine that is not
finished has its next step enabled as soon as its timer (if it waits on one) is
due; nothing waits on the mutex or on a channel without an alternative.  Under
the fairness assumption (enabled steps are eventually taken, time advances) every
`Accept` therefore returns by its deadline and every parked stream is closed by
its expiry time. -/
theorem progress (P : Params) (hP : P.Good) (s : State) (h : Reachable P s) :
    (∀ g (a : Acc), s.accs g = some a → a.pc = .wait → a.deadline ≤ s.now →
        (step P s (.accTimeout g)).isSome) ∧
    (∀ t (w : Tw), s.tws t = some w → w.pc = .wait → w.deadline ≤ s.now →
        (step P s (.twTimer t)).isSome) ∧
    (∀ t (w : Tw) b, s.tws t = some w → w.pc = .decided b → (step P s (.twFinish t)).isSome) ∧
    (∀ id k sid, s.run = .have id k sid → (step P s .runPark).isSome) ∧
    (∀ sid q, s.run = .idle → s.queue = sid :: q → (step P s .runTake).isSome) := by
  obtain ⟨hc, hl⟩ := consistent_live_of_reachable P hP s h
  have hlock := hl.lock_free
  refine ⟨?_, ?_, ?_, ?_, ?_⟩
  · intro g a ha hpc hd
    simp [step, ha, hlock, hpc, hd]
  · intro t w hw hpc hd
    simp [step, hw, hpc, hd]
  · intro t w b hw hpc
    obtain ⟨sl, hsl, _⟩ := hc.tw_id t w hw
    simp only [step, hw, hlock, hpc, hsl, hP.expiryDrainsAlways, hP.expiryRecvHasDefault, Bool.or_true, if_true]
    cases sl.buf <;> simp
  · intro id k sid hr
    obtain ⟨⟨sl, hsl, _⟩, _⟩ := hc.run_id id k sid hr
    simp only [step, hr, hsl]
    cases sl.buf <;> simp
  · intro sid q hr hq
    obtain ⟨i, hi⟩ := hc.queue_st sid (by simp [hq])
    simp [step, hr, hq, hlock, hi]

/-- **The bound, in numbers**: a deadline is set once (`now + window`) and the clock only advances, so in every
reachable state a waiting `Accept` is due at most `acceptWindow` ms from now and a `timeoutWait` at most
`expiryWindow` ms from now — and once due, its step is enabled (`progress`).  With the extracted windows
(5000 ms each, `Instance/C09.lean`) an unmatched `Accept` returns its error, and an unmatched dial's parked stream
is closed (so the dialler's `Dial` fails), about five seconds after it started — plus scheduling latency, which the
model does not bound. -/
theorem due_within_window (P : Params) (hP : P.Good) (s : State) (h : Reachable P s) :
    (∀ g (a : Acc), s.accs g = some a → a.pc = .wait →
        a.deadline ≤ s.now + P.acceptWindow ∧ (a.deadline ≤ s.now → (step P s (.accTimeout g)).isSome)) ∧
    (∀ t (w : Tw), s.tws t = some w → w.pc = .wait →
        w.deadline ≤ s.now + P.expiryWindow ∧ (w.deadline ≤ s.now → (step P s (.twTimer t)).isSome)) := by
  have ht := timed_of_reachable P s h
  obtain ⟨p1, p2, _⟩ := progress P hP s h
  exact ⟨fun g a hg hw => ⟨ht.acc g a hg, p1 g a hg hw⟩, fun t w hw hpc => ⟨ht.tw t w hw, p2 t w hw hpc⟩⟩

/-- non-vacuity: an Accept at time 0, 3 s later it is still waiting and due at 5000 -/
example : ∃ s, runFrom ⟨true, true, true, true, 1, 5000, 5000⟩ init [.accept 7, .tick 3000] = some s ∧
    s.accs 0 = some ⟨7, 0, 5000, .wait⟩ ∧ s.now = 3000 :=
  exists_some_of_any (by decide)

/-- **`Run` never leaves its loop while the session is alive**: a stream that is opened and closed before its
id header arrives ("peer closes mid-negotiation") costs that stream only. -/
theorem run_never_dies (P : Params) (hP : P.Good) (s : State) (h : Reachable P s) : s.run ≠ .dead :=
  (consistent_live_of_reachable P hP s h).2.run_alive

/-! ### Witnesses: each structural fact is needed (these are the replays of defects D5, D5b, D5c) -/

/-- the source as it was before the fixes -/
def pOld : Params := ⟨false, false, false, true, 1, 5000, 5000⟩

/-- D5: two unaccepted dials to one id; after both expiry timers the second
`timeoutWait` blocks on the empty slot while holding the mutex. -/
def wedgeTrace : List Event :=
  [.dial 77, .dial 77, .runTake, .runPark, .runTake, .runPark, .tick 5000,
   .twTimer 0, .twTimer 1, .twFinish 0, .twFinish 1]

theorem wedge_witness_two_dials :
    ∃ s, runFrom pOld init wedgeTrace = some s ∧ LockWedged s ∧
      step pOld s (.accept 78) = none ∧ step pOld s .runTake = none :=
  exists_some_of_any (by decide)

/-- D5 (second form): an `Accept` takes the parked stream at the expiry instant. -/
def wedgeTrace2 : List Event :=
  [.dial 5, .runTake, .runPark, .tick 5000, .twTimer 0, .accept 5, .accTake 0, .twFinish 0]

theorem wedge_witness_accept_at_expiry :
    ∃ s, runFrom pOld init wedgeTrace2 = some s ∧ LockWedged s :=
  exists_some_of_any (by decide)

/-- D5b: with the `default` arm added but the dropped stream not closed, the
second dial to a pending id is dropped unclosed. -/
theorem dropped_witness :
    ∃ s, runFrom ⟨true, false, false, true, 1, 5000, 5000⟩ init
        [.dial 77, .dial 77, .runTake, .runPark, .runTake, .runPark] = some s ∧
      (s.streams 1).map (·.st) = some .dropped :=
  exists_some_of_any (by decide)

/-- D5c: a second dial parked in a slot whose `doneCh` is already closed is never
closed unless `timeoutWait` drains unconditionally: stream 1 stays parked in slot 0
after every `timeoutWait` for that slot has finished. -/
def orphanTrace : List Event :=
  [.accept 7, .dial 7, .runTake, .runPark, .accTake 0, .dial 7, .runTake, .runPark,
   .twDone 0, .twDone 1, .twFinish 0, .twFinish 1]

theorem orphan_witness :
    ∃ s, runFrom ⟨true, false, true, true, 1, 5000, 5000⟩ init orphanTrace = some s ∧
      (s.streams 1).map (·.st) = some (.parked 0) ∧
      (s.tws 0).map (·.pc) = some .finished ∧ (s.tws 1).map (·.pc) = some .finished :=
  exists_some_of_any (by decide)


/-- A seeded change's shape: if a failed header read ended the `Run` loop, one aborted stream would stop the
broker for good — a later Accept(6)/Dial(6) on the same connection never connect. -/
theorem header_error_witness :
    ∃ s, runFrom ⟨true, true, true, false, 1, 5000, 5000⟩ init [.abort, .accept 6, .dial 6] = some s ∧
      s.run = .dead ∧ step ⟨true, true, true, false, 1, 5000, 5000⟩ s .runTake = none :=
  exists_some_of_any (by decide)

/-- with the unconditional drain the same history closes the orphan -/
example : ∃ s, runFrom ⟨true, true, true, true, 1, 5000, 5000⟩ init orphanTrace = some s ∧
      (s.streams 1).map (·.st) = some .closed :=
  exists_some_of_any (by decide)

/-- non-vacuity of `no_lock_wedge`: the D5 history is a legal history of the fixed source and ends unwedged -/
example : ∃ s, runFrom ⟨true, true, true, true, 1, 5000, 5000⟩ init wedgeTrace = some s ∧ ¬ LockWedged s :=
  exists_some_of_any (by decide)

/-! ### The gRPC brokers: each fact with its witness -/

/-- **A gRPC broker dial whose peer closed its listener mid-negotiation returns** — also when the caller asked for a
blocking dial (`grpc.WithBlock()` among its own options). -/
theorem gone_peer_dial_returns (D : GrpcBroker.DialParams) (hD : D.Good) (callerBlocks : Bool) :
    GrpcBroker.gonePeerDialReturns D callerBlocks = true := by
  simp [GrpcBroker.gonePeerDialReturns, hD.dialFailsFast]

/-- Witness: without fail-fast a blocking dial to a vanished listener retries for ever -/
theorem no_fail_fast_witness : GrpcBroker.gonePeerDialReturns ⟨true, true, true, false⟩ true = false := by decide

/-- **A broker call made after the peer has gone returns** (Accept, the knock and its acknowledgement all go through
`Send`): no message can be queued for a send loop that no longer exists. -/
theorem send_after_stream_end_returns (S : GrpcBroker.StreamerParams) (hS : S.Good) : GrpcBroker.sendAfterEndReturns S = true := hS

/-- Witness: a buffered hand-over can accept a message nobody will ever send -/
theorem buffered_send_witness : GrpcBroker.sendAfterEndReturns ⟨false⟩ = false := by decide

/-- **A listener closed mid-negotiation does not wedge the plugin's accept loop**: whether the announced stream is taken
by its listener or the listener has been closed by then (one of the two always holds: an open listener is being served
or will be), the main accept loop gets past the hand-off and accepts what follows. -/
theorem closed_listener_releases_loop (H : GrpcMux.HandoffParams) (hH : H.Good) (taken closed : Bool)
    (h : taken = true ∨ closed = true) : GrpcMux.loopPastHandoff H taken closed = true := by
  have hr : H.releasedOnClose = true := hH
  rcases h with h | h <;> simp [GrpcMux.loopPastHandoff, h, hr]

/-- Witness: with a plain blocking send, a listener closed between the knock's acknowledgement and the stream's arrival
leaves the loop waiting for ever -/
theorem plain_send_wedges_witness : GrpcMux.loopPastHandoff ⟨false⟩ false true = false := by decide

/-- **A closed listener's announced stream does not reach another listener** (host side): whatever state the closed
listener was in, the listener unblocked next accepts the stream announced for ITS id. -/
theorem next_listener_gets_own_stream (C : GrpcMux.ClientCloseParams) (hC : C.Good) (tokenPending : Bool) (closed next : Nat) :
    GrpcMux.nextAccepts C tokenPending closed next = some (GrpcMux.Tag.brokered next) := by
  simp [GrpcMux.nextAccepts, GrpcMux.queueAtNextAccept, hC.discardsAnnounced]

/-- Witness: without the discard, the listener of 80 accepts the stream that was dialled for 70 -/
theorem stale_stream_witness : GrpcMux.nextAccepts ⟨false, true⟩ true 70 80 = some (GrpcMux.Tag.brokered 70) := by decide

/-- **A second dial to a pending id does not wedge the host's muxer**: however many knocks are acknowledged for a listener
nobody is accepting on, the client muxer's lock is free afterwards. -/
theorem muxer_lock_free_after_knocks (C : GrpcMux.ClientCloseParams) (hC : C.Good) (knocks : Nat) :
    GrpcMux.muxerLockFree C knocks = true := by
  simp [GrpcMux.muxerLockFree, hC.unblockNeverBlocks]

/-- Witness: with the blocking send, the second knock for an unserved listener keeps the lock -/
theorem blocking_unblock_witness : GrpcMux.muxerLockFree ⟨true, false⟩ 2 = false := by decide

end GoPlugin.Props.C09
