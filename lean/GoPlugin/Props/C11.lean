import GoPlugin.Model.Stdio
/-
C11 — Synced stdout/stderr arrive byte-exact, in order, on the right stream.

Quantifiers: every structural-fact record `P`
satisfying `Params.Good…`, every sequence of writes on the two streams (any
sizes, any bytes), every way the pipe / `bufio.Reader` / `io.Copy` cut the
written bytes into reads (`ReaderDelivers`), every order in which the
`select` of `StreamStdio` (resp. the yamux session) interleaves the two
streams (`Merge`), and — for the "in order at every moment" statements —
every moment of the delivery (every prefix of that interleaving).

Transport assumption (explicit in the model as `Stdio.transport`, the
identity): messages on the one gRPC stream / bytes on one yamux stream are
delivered in order and exactly once while the connection is alive; the pipe
is FIFO.  Nothing here speaks about a dying connection.
-/
namespace GoPlugin.Stdio.Params

namespace GoodGrpc
variable {P : Params} (h : P.GoodGrpc)
include h
private theorem chunk : 0 < P.chunk := h.1
private theorem sendsExactRead : P.sendsExactRead = true := h.2.1
private theorem skipOnlyEmpty : P.skipOnlyEmpty = true := h.2.2.1
private theorem tagStdoutCh : sinkOf P P.tagStdoutCh = .out := h.2.2.2.1
private theorem tagStderrCh : sinkOf P P.tagStderrCh = .err := h.2.2.2.2.1
private theorem streamCtxBound : P.streamCtxBound = none := h.2.2.2.2.2.1
private theorem clientKeepalive : P.clientKeepalive = none := h.2.2.2.2.2.2
end GoodGrpc

namespace GoodRpc
variable {P : Params} (h : P.GoodRpc)
include h
private theorem rpcCliOut : P.rpcSrvOut = P.rpcCliOut := h.1
private theorem rpcCliErr : P.rpcSrvErr = P.rpcCliErr := h.2.1
private theorem rpcStreamsDistinct : P.rpcSrvOut ≠ P.rpcSrvErr := h.2.2
end GoodRpc

end GoPlugin.Stdio.Params

namespace GoPlugin.Props.C11
open Stdio

private theorem merge_symm {α : Type} {a b m : List α} (h : Merge a b m) : Merge b a m := by
  induction h with
  | nil => exact .nil
  | left x _ ih => exact .right x ih
  | right y _ ih => exact .left y ih

private theorem merge_append {α : Type} (a b : List α) : Merge a b (a ++ b) := by
  induction a with
  | cons x a ih => exact .left x ih
  | nil =>
    induction b with
    | nil => exact .nil
    | cons y b ih => exact .right y ih

/-- A test that holds on all of `a` and fails on all of `b` picks exactly `a` out of any interleaving of the two. -/
private theorem merge_filter {α : Type} {p : α → Bool} {a b m : List α} (h : Merge a b m)
    (ha : ∀ x ∈ a, p x = true) (hb : ∀ y ∈ b, p y = false) : m.filter p = a := by
  induction h with
  | nil => rfl
  | left x _ ih =>
    rw [List.filter_cons_of_pos (ha x List.mem_cons_self), ih (fun x hx => ha x (List.mem_cons_of_mem _ hx)) hb]
  | right y _ ih =>
    rw [List.filter_cons_of_neg (by simp [hb y List.mem_cons_self]), ih ha (fun y hy => hb y (List.mem_cons_of_mem _ hy))]

private theorem demux_eq (P : Params) (l : List Msg) :
    demux P l = ⟨((l.filter fun m => sinkOf P m.chan == .out).map Msg.data).flatten,
                 ((l.filter fun m => sinkOf P m.chan == .err).map Msg.data).flatten⟩ := by
  induction l with
  | nil => rfl
  | cons m ms ih => cases h : sinkOf P m.chan <;> simp [demux, h, ih]

/-- The only messages `StreamStdio` does not forward carry no bytes, and empty pieces do not show in a concatenation. -/
private theorem serverSends_flatten (P : Params) (hs : P.skipOnlyEmpty = true) (q : Msg → Bool) (sel : List Msg) :
    (((serverSends P sel).filter q).map Msg.data).flatten = ((sel.filter q).map Msg.data).flatten := by
  have hsk (m : Msg) : skipped P m = m.data.isEmpty := by
    cases h : m.data <;> simp [skipped, hs, h]
  have h : (serverSends P sel).filter q = (sel.filter q).filter ((fun d => !d.isEmpty) ∘ Msg.data) := by
    simp [serverSends, hsk, Bool.and_comm]
  rw [h, ← List.filter_map, List.flatten_filter_not_isEmpty]

private theorem rpcCollect_eq (i : Nat) (l : List Seg) :
    rpcCollect i l = ((l.filter fun s => s.stream == i).map Seg.data).flatten := by
  induction l with
  | nil => rfl
  | cons s ss ih => by_cases h : s.stream = i <;> simp [rpcCollect, h, ih]

private theorem grpcDeliver_append (P : Params) (a b : List Msg) :
    grpcDeliver P (a ++ b) =
      ⟨(grpcDeliver P a).out ++ (grpcDeliver P b).out, (grpcDeliver P a).err ++ (grpcDeliver P b).err⟩ := by
  simp [grpcDeliver, transport, serverSends, demux_eq]

private theorem rpcDeliver_append (P : Params) (a b : List Seg) :
    rpcDeliver P (a ++ b) =
      ⟨(rpcDeliver P a).out ++ (rpcDeliver P b).out, (rpcDeliver P a).err ++ (rpcDeliver P b).err⟩ := by
  simp [rpcDeliver, transport, rpcCollect_eq]

/-- For ANY delivery function that maps `++` to `++`: a prefix of the input delivers a prefix of the output, so exactness
of the complete delivery gives the order of every partial one. -/
private theorem retained_of_exact {α : Type} (f : List α → Writers)
    (hf : ∀ a b, f (a ++ b) = ⟨(f a).out ++ (f b).out, (f a).err ++ (f b).err⟩)
    (l : List α) (k : Nat) {preO postO preE postE : Bytes} (hx : f l = ⟨preO ++ postO, preE ++ postE⟩) :
    let d := f (l.take k)
    d.out <+: preO ++ postO ∧ (d.out <+: preO ∨ preO <+: d.out) ∧
    d.err <+: preE ++ postE ∧ (d.err <+: preE ∨ preE <+: d.err) := by
  intro d
  rw [← List.take_append_drop k l, hf] at hx
  have ho : d.out <+: preO ++ postO := ⟨_, congrArg Writers.out hx⟩
  have he : d.err <+: preE ++ postE := ⟨_, congrArg Writers.err hx⟩
  exact ⟨ho, List.prefix_or_prefix_of_prefix ho (List.prefix_append _ _),
    he, List.prefix_or_prefix_of_prefix he (List.prefix_append _ _)⟩

private theorem chunks_flatten (P : Params) (h : P.sendsExactRead = true) (reads : List Bytes) :
    (chunks P reads).flatten = reads.flatten := by
  fun_induction chunks P reads with
  | case1 => rfl
  | case2 r rs _ ih => simp [sent, h, ih]
  | case3 r rs hr ih =>
    have : r = [] := List.eq_nil_of_length_eq_zero (by omega)
    simp [this, ih]

private theorem recvFrom_data (c : Chan) (l : List Bytes) : (recvFrom c l).map Msg.data = l := by
  simp [recvFrom, Function.comp_def]

private theorem recvFrom_chan (c : Chan) (l : List Bytes) : ∀ m ∈ recvFrom c l, m.chan = c := by
  simp [recvFrom]

private theorem rpcSegs_data (i : Nat) (l : List Bytes) : (rpcSegs i l).map Seg.data = l := by
  simp [rpcSegs, Function.comp_def]

private theorem rpcSegs_stream (i : Nat) (l : List Bytes) : ∀ s ∈ rpcSegs i l, s.stream = i := by
  simp [rpcSegs]

/-- Every choice list yields an interleaving: the `∀ merge` quantifier ranges
over a non-empty set, and the oracle's executable merge is one of them. -/
theorem mergeBy_is_merge {α : Type} (cs : List Bool) (a b : List α) : Merge a b (mergeBy cs a b) := by
  fun_induction mergeBy cs a b with
  | case1 a b => exact merge_append a b
  | case2 _ _ b => exact merge_append [] b
  | case3 _ _ a => simpa using merge_append a []
  | case4 cs x a b _ ih => exact .left x ih
  | case5 cs a y b _ ih => exact .right y ih

private theorem delivers_nil (n : Nat) : ReaderDelivers n [] [] := ⟨rfl, by simp⟩

private theorem delivers_cons {n m : Nat} {w : Bytes} {rs : List Bytes} (hm : m ≤ n)
    (h : ReaderDelivers n (w.drop m) rs) : ReaderDelivers n w (w.take m :: rs) := by
  refine ⟨by simp [h.1], fun r hr => ?_⟩
  rcases List.mem_cons.1 hr with rfl | hr
  · rw [List.length_take]; omega
  · exact h.2 r hr

private theorem splitEvery_delivers (n : Nat) (hn : 0 < n) (fuel : Nat) (w : Bytes) (hw : w.length ≤ fuel) :
    ReaderDelivers n w (splitEvery n fuel w) := by
  fun_induction splitEvery n fuel w with
  | case1 w => rw [List.eq_nil_of_length_eq_zero (Nat.le_zero.1 hw)]; exact delivers_nil n
  | case2 fuel w he => rw [List.isEmpty_iff.1 he]; exact delivers_nil n
  | case3 fuel w he ih =>
    have hpos : 0 < w.length := List.length_pos_iff.2 (by simpa using he)
    exact delivers_cons (Nat.le_refl n) (ih (by rw [List.length_drop]; omega))

/-- **The reader always makes progress**: with a non-empty buffer every written
byte sequence has a legal sequence of reads, whatever the requested cut sizes —
the `∀ reads` quantifier of the theorems below ranges over a non-empty set,
and the oracle's executable reader is one of its members. -/
theorem rechunk_delivers (n : Nat) (hn : 0 < n) (cuts : List Nat) (w : Bytes) :
    ReaderDelivers n w (rechunk n cuts w) := by
  fun_induction rechunk n cuts w with
  | case1 w => exact splitEvery_delivers n hn w.length w (Nat.le_refl _)
  | case2 s ss w he => rw [List.isEmpty_iff.1 he]; exact delivers_nil n
  | case3 s ss w _ ih => exact delivers_cons (Nat.min_le_right s n) ih

/-- Exactness in terms of the BYTES the pipes carry, however the plugin's writes cut them.  "This tag's sink is
`SyncStdout`" holds on every message of the stdout channel and on none of the stderr channel, so it picks the former
out of the interleaving; what `StreamStdio` skipped carried no bytes. -/
theorem grpc_exact (P : Params) (hP : P.GoodGrpc) (outW errW : Bytes) (outReads errReads : List Bytes) (sel : List Msg)
    (hout : ReaderDelivers P.chunk outW outReads) (herr : ReaderDelivers P.chunk errW errReads)
    (hsel : GrpcSelect P outReads errReads sel) : grpcDeliver P sel = ⟨outW, errW⟩ := by
  have ho := merge_filter (p := fun m => sinkOf P m.chan == .out) hsel
    (fun m hm => by rw [recvFrom_chan _ _ m hm, hP.tagStdoutCh]; rfl)
    (fun m hm => by rw [recvFrom_chan _ _ m hm, hP.tagStderrCh]; rfl)
  have he := merge_filter (p := fun m => sinkOf P m.chan == .err) (merge_symm hsel)
    (fun m hm => by rw [recvFrom_chan _ _ m hm, hP.tagStderrCh]; rfl)
    (fun m hm => by rw [recvFrom_chan _ _ m hm, hP.tagStdoutCh]; rfl)
  rw [grpcDeliver, transport, demux_eq, serverSends_flatten P hP.skipOnlyEmpty, serverSends_flatten P hP.skipOnlyEmpty,
    ho, he, recvFrom_data, recvFrom_data, chunks_flatten P hP.sendsExactRead, chunks_flatten P hP.sendsExactRead,
    hout.1, herr.1]

/-- **per_stream_exact (gRPC).**  For all writes on stdout and on stderr, all
cuttings of each pipe's bytes into reads of at most `chunk` bytes, and all
orders in which `StreamStdio`'s select takes the chunks: `SyncStdout` has
received exactly the concatenation of the stdout writes and `SyncStderr`
exactly that of the stderr writes — nothing lost, duplicated, reordered or
crossed. -/
theorem per_stream_exact_grpc (P : Params) (hP : P.GoodGrpc)
    (outWrites errWrites outReads errReads : List Bytes) (sel : List Msg)
    (hout : ReaderDelivers P.chunk outWrites.flatten outReads)
    (herr : ReaderDelivers P.chunk errWrites.flatten errReads)
    (hsel : GrpcSelect P outReads errReads sel) :
    grpcDeliver P sel = ⟨outWrites.flatten, errWrites.flatten⟩ :=
  grpc_exact P hP _ _ _ _ sel hout herr hsel

/-- **before_attach_retained (gRPC).**  `pre…` are the writes made before the
host's stream handler attached, `post…` those made after.  The channels and
the pipe retain order, so at EVERY moment of the delivery (after the handler
has taken any `k` chunks, whenever it started) what `SyncStdout` holds is a
prefix of `pre ++ post`: either still inside the pre-attach data, or all of
the pre-attach data followed by later data — never later data first.  Same for
stderr.  (With `k = sel.length` this is `per_stream_exact_grpc`.) -/
theorem before_attach_retained_grpc (P : Params) (hP : P.GoodGrpc)
    (preOut postOut preErr postErr outReads errReads : List Bytes) (sel : List Msg)
    (hout : ReaderDelivers P.chunk (preOut.flatten ++ postOut.flatten) outReads)
    (herr : ReaderDelivers P.chunk (preErr.flatten ++ postErr.flatten) errReads)
    (hsel : GrpcSelect P outReads errReads sel) (k : Nat) :
    let d := grpcDeliver P (sel.take k)
    d.out <+: preOut.flatten ++ postOut.flatten ∧ (d.out <+: preOut.flatten ∨ preOut.flatten <+: d.out) ∧
    d.err <+: preErr.flatten ++ postErr.flatten ∧ (d.err <+: preErr.flatten ∨ preErr.flatten <+: d.err) :=
  retained_of_exact (grpcDeliver P) (grpcDeliver_append P) sel k (grpc_exact P hP _ _ _ _ sel hout herr hsel)

/-- The stream is open at every moment at which the connection is alive: its
context is the client's done-context, which carries no deadline. -/
theorem stream_open_while_connected (P : Params) (hP : P.GoodGrpc) (connEnd t : Nat) (h : t < connEnd) :
    streamOpenAt P connEnd t = true := by
  simp [streamOpenAt, hP.streamCtxBound, hP.clientKeepalive, h]

private theorem takeWhile_all {α : Type} (p : α → Bool) : ∀ l : List α, (∀ x ∈ l, p x = true) → l.takeWhile p = l
  | [], _ => rfl
  | x :: xs, h => by
    rw [List.takeWhile_cons_of_pos (h x List.mem_cons_self), takeWhile_all p xs fun y hy => h y (List.mem_cons_of_mem _ hy)]

/-- **late_output_delivered (gRPC).**  For every timed sequence of chunks —
whatever the times, in particular after an idle period of any length — as long
as every chunk is sent while the connection is alive, the stream is still
there to carry it: time drops nothing. -/
theorem late_output_delivered_grpc (P : Params) (hP : P.GoodGrpc) (connEnd : Nat) (tsel : List (Nat × Msg))
    (hlive : ∀ tm ∈ tsel, tm.1 < connEnd) :
    grpcDeliverTimed P connEnd tsel = grpcDeliver P (tsel.map (·.2)) := by
  unfold grpcDeliverTimed
  rw [takeWhile_all _ _ (fun tm h => stream_open_while_connected P hP connEnd tm.1 (hlive tm h))]

/-- **per_stream_exact with time (gRPC).**  All writes, all cuttings, all select
orders, all send times before the end of the connection: both writers receive
exactly their stream — nothing written late is lost. -/
theorem per_stream_exact_grpc_timed (P : Params) (hP : P.GoodGrpc) (connEnd : Nat)
    (outWrites errWrites outReads errReads : List Bytes) (tsel : List (Nat × Msg))
    (hout : ReaderDelivers P.chunk outWrites.flatten outReads)
    (herr : ReaderDelivers P.chunk errWrites.flatten errReads)
    (hsel : GrpcSelect P outReads errReads (tsel.map (·.2)))
    (hlive : ∀ tm ∈ tsel, tm.1 < connEnd) :
    grpcDeliverTimed P connEnd tsel = ⟨outWrites.flatten, errWrites.flatten⟩ := by
  rw [late_output_delivered_grpc P hP connEnd tsel hlive]
  exact per_stream_exact_grpc P hP _ _ _ _ _ hout herr hsel

/-- The host's stream numbers pick the two server-side copies out of the session traffic: both sides agree on them
and they differ. -/
theorem netrpc_exact (P : Params) (hP : P.GoodRpc) (outW errW : Bytes) (outReads errReads : List Bytes) (wire : List Seg)
    (hout : outReads.flatten = outW) (herr : errReads.flatten = errW)
    (hw : RpcWire P outReads errReads wire) : rpcDeliver P wire = ⟨outW, errW⟩ := by
  have h1 := merge_filter (p := fun s => s.stream == P.rpcCliOut) hw
    (fun s hs => by rw [rpcSegs_stream _ _ s hs, hP.rpcCliOut]; exact beq_self_eq_true _)
    (fun s hs => by rw [rpcSegs_stream _ _ s hs, ← hP.rpcCliOut]; exact beq_false_of_ne (Ne.symm hP.rpcStreamsDistinct))
  have h2 := merge_filter (p := fun s => s.stream == P.rpcCliErr) (merge_symm hw)
    (fun s hs => by rw [rpcSegs_stream _ _ s hs, hP.rpcCliErr]; exact beq_self_eq_true _)
    (fun s hs => by rw [rpcSegs_stream _ _ s hs, ← hP.rpcCliErr]; exact beq_false_of_ne hP.rpcStreamsDistinct)
  rw [rpcDeliver, transport, rpcCollect_eq, rpcCollect_eq, h1, h2, rpcSegs_data, rpcSegs_data, hout, herr]

/-- **per_stream_exact (net/rpc).**  For all writes, all cuttings into
`io.Copy` reads (any sizes) and all interleavings of the two yamux streams on
the session: each sync writer receives exactly the concatenation of its
stream's writes. -/
theorem per_stream_exact_netrpc (P : Params) (hP : P.GoodRpc)
    (outWrites errWrites outReads errReads : List Bytes) (wire : List Seg)
    (hout : outReads.flatten = outWrites.flatten) (herr : errReads.flatten = errWrites.flatten)
    (hw : RpcWire P outReads errReads wire) :
    rpcDeliver P wire = ⟨outWrites.flatten, errWrites.flatten⟩ :=
  netrpc_exact P hP _ _ _ _ wire hout herr hw

/-- **before_attach_retained (net/rpc).**  At every moment (any prefix of the
session traffic) each sync writer holds a prefix of its stream's writes, the
pre-attach data first. -/
theorem before_attach_retained_netrpc (P : Params) (hP : P.GoodRpc)
    (preOut postOut preErr postErr outReads errReads : List Bytes) (wire : List Seg)
    (hout : outReads.flatten = preOut.flatten ++ postOut.flatten)
    (herr : errReads.flatten = preErr.flatten ++ postErr.flatten)
    (hw : RpcWire P outReads errReads wire) (k : Nat) :
    let d := rpcDeliver P (wire.take k)
    d.out <+: preOut.flatten ++ postOut.flatten ∧ (d.out <+: preOut.flatten ∨ preOut.flatten <+: d.out) ∧
    d.err <+: preErr.flatten ++ postErr.flatten ∧ (d.err <+: preErr.flatten ∨ preErr.flatten <+: d.err) :=
  retained_of_exact (rpcDeliver P) (rpcDeliver_append P) wire k (netrpc_exact P hP _ _ _ _ wire hout herr hw)

/-- The oracle's gRPC run (any cut sizes, any choice list) delivers exactly the written bytes. -/
theorem grpcExec_exact (P : Params) (hP : P.GoodGrpc) (outCuts errCuts : List Nat) (choices : List Bool)
    (outW errW : Bytes) : grpcExec P outCuts errCuts choices outW errW = ⟨outW, errW⟩ :=
  grpc_exact P hP outW errW _ _ _ (rechunk_delivers P.chunk hP.chunk outCuts outW)
    (rechunk_delivers P.chunk hP.chunk errCuts errW) (mergeBy_is_merge choices _ _)

private theorem timedSel_live (P : Params) (idle connEnd : Nat) (oc ec : List Nat) (ch : List Bool) :
    ∀ (phases : List (Bytes × Bytes)) (g : Nat), (∀ k, g ≤ k → k < g + phases.length → k * idle < connEnd) →
      ∀ tm ∈ grpcTimedSel P idle oc ec ch g phases, tm.1 < connEnd
  | [], _, _, tm, h => by simp [grpcTimedSel] at h
  | ph :: rest, g, hl, tm, h => by
    simp only [grpcTimedSel, List.mem_append, List.mem_map] at h
    rcases h with ⟨m, _, rfl⟩ | h
    · exact hl g (Nat.le_refl g) (by simp)
    · exact timedSel_live P idle connEnd oc ec ch rest (g + 1)
        (fun k h1 h2 => hl k (by omega) (by simp only [List.length_cons]; omega)) tm h

private theorem deliver_timedSel (P : Params) (hP : P.GoodGrpc) (idle : Nat) (oc ec : List Nat) (ch : List Bool)
    (phases : List (Bytes × Bytes)) (g : Nat) :
    grpcDeliver P ((grpcTimedSel P idle oc ec ch g phases).map (·.2)) =
      ⟨(phases.map (·.1)).flatten, (phases.map (·.2)).flatten⟩ := by
  induction phases generalizing g with
  | nil => rfl
  | cons ph rest ih =>
    have h1 : grpcDeliver P (grpcPhase P oc ec ch ph.1 ph.2) = ⟨ph.1, ph.2⟩ := grpcExec_exact P hP oc ec ch ph.1 ph.2
    simp only [grpcTimedSel, List.map_append, List.map_map, Function.comp_def, List.map_id',
      grpcDeliver_append, ih (g + 1), h1, List.map_cons, List.flatten_cons]

/-- The oracle's timed gRPC run — any number of phases separated by idle
periods of any length, all within the connection's life — delivers exactly
the written bytes, in phase order. -/
theorem grpcExecTimed_exact (P : Params) (hP : P.GoodGrpc) (connEnd idle : Nat) (outCuts errCuts : List Nat)
    (choices : List Bool) (phases : List (Bytes × Bytes)) (hlive : ∀ g, g < phases.length → g * idle < connEnd) :
    grpcExecTimed P connEnd idle outCuts errCuts choices phases =
      ⟨(phases.map (·.1)).flatten, (phases.map (·.2)).flatten⟩ := by
  unfold grpcExecTimed
  rw [late_output_delivered_grpc P hP connEnd _
    (timedSel_live P idle connEnd outCuts errCuts choices phases 0 fun k _ h => hlive k (by omega))]
  exact deliver_timedSel P hP idle outCuts errCuts choices phases 0

/-- The oracle's net/rpc run delivers exactly the written bytes. -/
theorem rpcExec_exact (P : Params) (hP : P.GoodRpc) (outCuts errCuts : List Nat) (choices : List Bool)
    (outW errW : Bytes) : rpcExec P outCuts errCuts choices outW errW = ⟨outW, errW⟩ :=
  netrpc_exact P hP outW errW _ _ _ (rechunk_delivers 32768 (by decide) outCuts outW).1
    (rechunk_delivers 32768 (by decide) errCuts errW).1 (mergeBy_is_merge choices _ _)

/-! ### Witnesses: each fact is needed (the property fails when it is false) -/

/-- the facts of the unchanged source -/
def good : Params := ⟨1024, true, .stdout, .stderr, true, .out, .err, 0, 1, 0, 1, none, none⟩

/-- `copyChan` sending `data[:n-1]`: the byte written to stdout is lost. -/
theorem send_slice_witness :
    grpcExec { good with sendsExactRead := false } [] [] [] [7] [] = ⟨[], []⟩ := by decide

/-- A zero-length read buffer: no legal sequence of reads delivers a non-empty
write (the copy loop spins on `n == 0` for ever). -/
theorem chunk_zero_witness : ¬ ∃ reads, ReaderDelivers 0 [7] reads := by
  rintro ⟨reads, hflat, hlen⟩
  have : reads.flatten = [] :=
    List.flatten_eq_nil_iff.2 fun r hr => List.eq_nil_of_length_eq_zero (Nat.le_zero.1 (hlen r hr))
  rw [this] at hflat
  exact absurd hflat (by decide)

/-- `StreamStdio` tagging `stderrCh` data as STDOUT: stderr bytes reach `SyncStdout`. -/
theorem tag_swap_witness :
    grpcExec { good with tagStderrCh := .stdout } [] [] [] [] [9] = ⟨[9], []⟩ := by decide

/-- The host mapping STDOUT to the stderr writer: crossing. -/
theorem client_map_witness :
    grpcExec { good with cliOnStdout := .err } [] [] [] [7] [] = ⟨[], [7]⟩ := by decide

/-- The skip test inverted (`len != 0`): everything is dropped. -/
theorem skip_inverted_witness :
    grpcExec { good with skipOnlyEmpty := false } [] [] [] [7] [9] = ⟨[], []⟩ := by decide

/-- net/rpc server copying the two pipes to swapped streams: crossing. -/
theorem rpc_swap_witness :
    rpcExec { good with rpcSrvOut := 1, rpcSrvErr := 0 } [] [] [] [7] [9] = ⟨[9], [7]⟩ := by decide

/-- net/rpc server copying both pipes to one stream: stderr bytes appear in
`SyncStdout` (here even before the stdout bytes) and `SyncStderr` stays empty. -/
theorem rpc_same_stream_witness :
    rpcExec { good with rpcSrvErr := 0 } [] [] [false] [7] [9] = ⟨[9, 7], []⟩ := by decide

/-- The context of the stdio stream carrying a 5 s deadline
(`context.WithTimeout(doneCtx, 5*time.Second)` "to bound the connect"): the byte
the plugin writes 6.5 s after the host attached is lost although the connection
lives for a minute; what is written at once arrives. -/
theorem stream_deadline_witness :
    ¬ ({ good with streamCtxBound := some 5000 } : Params).GoodGrpc ∧
    grpcExecTimed { good with streamCtxBound := some 5000 } 60000 6500 [] [] [] [([1], [2]), ([3], [4])]
      = ⟨[1], [2]⟩ ∧
    grpcDeliverTimed { good with streamCtxBound := some 5000 } 60000
      [(10, ⟨.stdout, [1]⟩), (6500, ⟨.stdout, [3]⟩)] = ⟨[1], []⟩ := by decide

/-- Client keep-alive pings every 10 s against a server with the default enforcement policy: after 40 s of quiet the
transport has been recycled and what the plugin writes then is lost, although the connection lives on. -/
theorem client_keepalive_witness :
    ¬ ({ good with clientKeepalive := some 10000 } : Params).GoodGrpc ∧
    grpcExecTimed { good with clientKeepalive := some 10000 } 600000 40000 [] [] [] [([1], [2]), ([3], [4])] = ⟨[1], [2]⟩ := by decide

example : good.Good := by decide

/-- 5 bytes on stdout read as 2+0+3, 3 bytes on stderr read as 1+2, select order err,out,out,err:
both writers get exactly their stream. -/
example : grpcExec good [2, 0, 3] [1, 2] [false, true, true, false] [1, 2, 3, 4, 5] [0, 255, 10]
    = ⟨[1, 2, 3, 4, 5], [0, 255, 10]⟩ := by decide

/-- the hypotheses of `per_stream_exact_grpc` are satisfiable with a non-trivial interleaving -/
example : ReaderDelivers good.chunk ([[1, 2], [3]] : List Bytes).flatten [[1], [], [2, 3]] ∧
    GrpcSelect good [[1], [], [2, 3]] [[9]] [⟨.stdout, [1]⟩, ⟨.stderr, [9]⟩, ⟨.stdout, [2, 3]⟩] := by
  refine ⟨⟨by decide, by decide⟩, ?_⟩
  exact Merge.left _ (Merge.right _ (Merge.left _ Merge.nil))

/-- after one chunk of the interleaving above only pre-attach data has been delivered -/
example : (grpcDeliver good (List.take 1 [⟨.stdout, [1]⟩, ⟨.stderr, [9]⟩, ⟨.stdout, [2, 3]⟩])).out = [1] := by
  decide

example : rpcExec good [1] [] [false, true] [1, 2, 3] [4, 5] = ⟨[1, 2, 3], [4, 5]⟩ := by decide

/-- two phases 6.5 s apart on a connection that lives a minute: everything arrives -/
example : grpcExecTimed good 60000 6500 [1] [] [false] [([1], [2]), ([3, 5], [4])] = ⟨[1, 3, 5], [2, 4]⟩ := by decide

/-- the hypotheses of `per_stream_exact_grpc_timed` are satisfiable with a late chunk -/
example : GrpcSelect good [[1], [3]] [[9]]
      (([(0, ⟨.stdout, [1]⟩), (0, ⟨.stderr, [9]⟩), (6500, ⟨.stdout, [3]⟩)] : List (Nat × Msg)).map (·.2)) ∧
    ∀ tm ∈ ([(0, ⟨.stdout, [1]⟩), (0, ⟨.stderr, [9]⟩), (6500, ⟨.stdout, [3]⟩)] : List (Nat × Msg)), tm.1 < 60000 := by
  refine ⟨Merge.left _ (Merge.right _ (Merge.left _ Merge.nil)), by decide⟩

end GoPlugin.Props.C11
