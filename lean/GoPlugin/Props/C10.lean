import GoPlugin.Lemmas.LogLine
/-
C10 — Plugin output never crashes or stalls the host; stderr is forwarded faithfully.

Property theorems (most helper lemmas and the specification vocabulary
`crlfToLf`, `dropCR`, `finalNewline`, `specText`, `expected` are in
`Lemmas/LogLine.lean`).  Quantifiers: every byte sequence on stderr / on stdout
after the handshake line, every `PluginLogBufferSize` `n` (the reader's buffer is
`bufSize n = max n 16`), every behaviour `E` of `encoding/json` and `time.Parse`,
every structural-fact record satisfying `Good`.

The loop of `logStderr` is `stderrFold st (readAll n s)`: the loop body folded
over the `ReadLine` results of the still unread stream `s`, started in loop
state `st`.  `short_line_record` / `long_line_chunks` are stated for an
arbitrary `st` and an arbitrary continuation `rest`, i.e. for a line at any
position of any stream.
-/
namespace GoPlugin.Props.C10
open LogLine

/-- **The bytes given to `config.Stderr` are the plugin's stderr bytes with each line terminator
(`\n` or `\r\n`) replaced by `\n`, in order, nothing else added or dropped** — except for
`finalNewline n input`: one `\n` appended after a final *unterminated* line, unless the last
`ReadLine` result was a full-buffer prefix (see the three `final_newline_*` theorems).
Holds for every run that does not panic (`stderr_no_panic`: every run, under the fact). -/
theorem stderr_copy_exact (P : Params) (E : Ext) (n : Nat) (input : Bytes)
    (h : (stderrLoop P E n input).panicked = false) :
    (stderrLoop P E n input).written = crlfToLf input ++ finalNewline n input := by
  unfold stderrLoop at h ⊢
  rw [fold_written P E _ _ h]
  exact render_readAll n input

/-- A stream whose last line is terminated is copied with nothing appended. -/
theorem final_newline_terminated (n : Nat) (body : Bytes) : finalNewline n (body ++ [10]) = [] := by
  unfold finalNewline finalNL
  -- only a last result that is not a prefix consults the stream's last byte, and that byte is `\n`
  split <;> simp

/-- Whether a `\n` is appended depends only on the final unterminated line `y`, not on the
complete lines `pre` before it. -/
theorem final_newline_last_line (n : Nat) (pre y : Bytes) (hpre : pre = [] ∨ pre.getLast? = some 10)
    (hy : y ≠ []) : finalNewline n (pre ++ y) = finalNewline n y := by
  unfold finalNewline finalNL
  rw [readAll_append n pre y hpre, getLast?_append_ne _ _ (readAll_ne_nil n y hy), getLast?_append_ne _ _ hy]

/-- A final unterminated line without `\r` gets its `\n` appended **unless its length is an exact
(positive) multiple of the buffer size**: then the last chunk fills the buffer, `ReadLine` reports
a prefix, EOF follows, and no newline is written. -/
theorem final_newline_exact_multiple (n : Nat) (y : Bytes) (hy : y ≠ []) (h10 : 10 ∉ y) (h13 : 13 ∉ y) :
    finalNewline n y = if y.length % bufSize n = 0 then [] else [10] := by
  have _ := hy  -- not needed: for the empty line both sides are empty
  obtain ⟨m, hm, -, hf⟩ := readAll_tail n y h10
  rw [hf, hm h13]

/-- The `switch` over `strings.HasPrefix` is the level table `[TRACE] [DEBUG] [INFO] [WARN] [ERROR]`
(first match), then `panic:` → error and opens a panic trace, otherwise debug — error while a
panic trace is open; any level prefix closes the trace. -/
theorem text_level_table (inPanic : Bool) (line : Bytes) : textLevel inPanic line = specText inPanic line := by
  -- in each arm of `textLevel`'s ladder the tests above it have failed: that is how far `find?` goes down the table
  fun_cases textLevel inPanic line <;> simp [specText, prefixTable, List.find?, *]

private theorem fold_line (P : Params) (E : Ext) (st : State) (line : Bytes) (more : List (Bytes × Bool))
    (hc : st.cont = false) (hnp : parseJSON P E line ≠ .panic) :
    stderrFold P E st ((line, false) :: more) =
      (stderrFold P E ⟨false, (expected P E st.inPanic line).2⟩ more).prepend (line ++ [10])
        [(expected P E st.inPanic line).1] := by
  rw [stderrFold]
  simp only [hc, Bool.or_self, Bool.false_eq_true, if_false]
  unfold expected
  cases hj : parseJSON P E line with
  | panic => exact absurd hj hnp
  | err => simp [text_level_table, rawRec]
  | ok msg lvl keys =>
    -- `expected` spells `entryRec` out
    simp only [entryRec, rawRec]
    cases hclogLevel lvl <;> rfl

/-- **A line shorter than the buffer yields exactly one record**: for the bytes `y` before a `\n`
(`y.length < bufSize n`, so the line and its terminator fit the buffer; `dropCR y` is the line
without the `\r` of a `\r\n`), in any loop state that is not inside a continued line, the loop
writes `line ++ "\n"`, emits exactly the record `expected … line` — level from the hclog JSON
`@level` or the text prefix table, message = `@message` or the line, args = the other JSON keys
plus `timestamp` — and goes on with the rest of the stream. -/
theorem short_line_record (P : Params) (E : Ext) (n : Nat) (y rest : Bytes) (st : State)
    (hy : 10 ∉ y) (hlen : y.length < bufSize n) (hc : st.cont = false)
    (hnp : parseJSON P E (dropCR y) ≠ .panic) :
    stderrFold P E st (readAll n (y ++ 10 :: rest)) =
      (stderrFold P E ⟨false, (expected P E st.inPanic (dropCR y)).2⟩ (readAll n rest)).prepend
        (dropCR y ++ [10]) [(expected P E st.inPanic (dropCR y)).1] := by
  obtain ⟨chunks, last, hflat, hnone, hread⟩ := readAll_line n y hy
  have hch : chunks = [] := hnone.2 hlen
  subst hch
  simp only [List.flatten_nil, List.nil_append] at hflat
  subst hflat
  rw [hread rest]
  exact fold_line P E st _ _ hc hnp

/-- **A longer line is emitted as consecutive debug chunks whose concatenation is the line**
(at least two; never parsed, so it cannot panic), is written out followed by one `\n`, and
leaves the panic-trace flag unchanged. -/
theorem long_line_chunks (P : Params) (E : Ext) (n : Nat) (y rest : Bytes) (st : State)
    (hy : 10 ∉ y) (hlen : bufSize n ≤ y.length) :
    ∃ chunks : List Bytes, chunks.flatten = dropCR y ∧ 2 ≤ chunks.length ∧
      stderrFold P E st (readAll n (y ++ 10 :: rest)) =
        (stderrFold P E ⟨false, st.inPanic⟩ (readAll n rest)).prepend (dropCR y ++ [10])
          (chunks.map (rawRec .debug)) := by
  obtain ⟨chunks, last, hflat, hnone, hread⟩ := readAll_line n y hy
  have hne : chunks ≠ [] := fun e => by have := hnone.1 e; omega
  refine ⟨chunks ++ [last], by simp [hflat], ?_, ?_⟩
  · cases chunks with
    | nil => exact absurd rfl hne
    | cons c cs => simp
  · rw [hread rest, fold_chunks P E chunks st last _ (Or.inl hne), hflat]

/-- **No stderr byte sequence makes the stderr goroutine panic** (fact: the string assertions of
`parseJSON` are checked). -/
theorem stderr_no_panic (P : Params) (hP : P.Good) (E : Ext) (n : Nat) (input : Bytes) :
    (stderrLoop P E n input).panicked = false := fold_no_panic P hP E _ _

/-- **Every byte the plugin writes to stdout after the handshake line is read by the host**
(facts: tokens are received from `linesCh` for ever; reading goes on after a scanner error). -/
theorem stdout_always_drained (P : Scanner.DrainParams) (hP : P.Good) (stream : Bytes) :
    Scanner.consumes P stream = true := by
  simp [Scanner.consumes, Scanner.unread, unreadFuel_good P hP (stream.length + 1) stream (by omega)]

/-- **A failing `Stderr` writer does not stop the host from reading the plugin's stderr**: whatever calls of the
configured writer fail, every line is taken from the pipe (so the plugin is never blocked, and `stderr_copy_exact` /
the record theorems above apply to the whole stream). -/
theorem stderr_taken_all (R : ReaderParams) (hR : R.Good) (sinkFails : Nat → Bool) (lines i : Nat) :
    stderrTaken R sinkFails lines i = lines := by
  induction lines generalizing i with
  | zero => rfl
  | succ n ih =>
    simp [stderrTaken, hR.endsOnlyOnReadError, ih, Nat.add_comm]

/-- stderr output that precedes the handshake line is consumed while `Start` waits for the line -/
theorem stderr_taken_before_handshake (R : ReaderParams) (hR : R.Good) (lines : Nat) :
    stderrTakenDuringStart R lines = lines := by
  simp [stderrTakenDuringStart, hR.readsFromStart]

/-- **The plugin's last words are not lost**: whatever is still unread in the stderr pipe when the process exits is taken
too (the pipe is closed only after the reader has reached its end). -/
theorem stderr_taken_after_exit (R : ReaderParams) (hR : R.Good) (unread : Nat) : stderrTakenAfterExit R unread = unread := by
  simp [stderrTakenAfterExit, hR.waitedBeforeProcWait]

/-- **Every field of an hclog line is a field of the record**, whatever its value (null, zero, empty). -/
theorem all_fields_kept (P : Params) (hP : P.Good) (skipped : Bytes → Bool) (keys : List Bytes) : keptKeys P skipped keys = keys := by
  simp [keptKeys, hP.kvAllKept]

/-! ### The structural facts matter (witnesses) -/

/-- a loop that returns when the sink write fails leaves everything after the first failure unread -/
theorem sink_error_witness : stderrTaken ⟨false, true, true⟩ (fun i => i == 2) 1000 0 = 3 := by decide

/-- a reader that first asks the client for something guarded by the lock `Start` holds reads nothing until `Start` returns -/
theorem reader_waits_for_start_witness : stderrTakenDuringStart ⟨true, false, true⟩ 2048 = 0 := by decide

/-- `{"@message": 5}` -/
def lineD6 : Bytes := [123, 34, 64, 109, 101, 115, 115, 97, 103, 101, 34, 58, 32, 53, 125]

/-- `encoding/json` on `lineD6`: an object whose `@message` is a number. -/
def extD6 : Ext := ⟨fun l => if l = lineD6 then .object [(kMessage, .nonStr)] else .notObject, fun _ => false⟩

/-- D6: with unchecked assertions the stderr line `{"@message": 5}` panics the goroutine. -/
theorem parsejson_panic_witness :
    (stderrLoop ⟨false, 65536, true⟩ extD6 64 (lineD6 ++ [10])).panicked = true := by decide

/-- D7 at any token limit `M` (in particular 65536): a stdout line of `M` bytes stops the scanner
(`ErrTooLong`) and, when nothing drains afterwards, its `\n` is never read. -/
theorem stdout_stall_witness (M : Nat) :
    Scanner.consumes ⟨M, true, false⟩ (List.replicate M 97 ++ [10]) = false := by
  simp [Scanner.consumes, Scanner.unread, Scanner.unreadFuel, scanTok_replicate 97 (by decide) [10] M]

theorem stdout_stall_witness_small : Scanner.consumes ⟨4, true, false⟩ [97, 97, 97, 97, 10] = false := by decide

/-- Without the goroutine receiving from `linesCh` the reader blocks on the first token it sends. -/
theorem stdout_undrained_lines_witness : Scanner.consumes ⟨4, false, true⟩ [97, 10, 98] = false := by decide

/-- Witness: a reader that the exit watcher does not wait for loses everything still in the pipe -/
theorem pipe_closed_early_witness : stderrTakenAfterExit ⟨true, true, false⟩ 700 = 0 := by decide

/-- Witness: a nil-guard in the flattening drops `err=null` -/
theorem nil_guard_witness : keptKeys ⟨true, 65536, false⟩ (fun k => k == [101, 114, 114]) [[110], [101, 114, 114]] = [[110]] := by decide

def extNone : Ext := ⟨fun _ => .notObject, fun _ => false⟩
def good : Params := ⟨true, 65536, true⟩

example : good.Good := by decide
example : (⟨65536, true, true⟩ : Scanner.DrainParams).Good := by decide

/-- `a\r\nb` with a 16-byte buffer: CRLF becomes LF, the unterminated `b` gets its newline. -/
example : (stderrLoop good extNone 16 [97, 13, 10, 98]).written = [97, 10, 98, 10] := by decide
example : crlfToLf [97, 13, 10, 98] ++ finalNewline 16 [97, 13, 10, 98] = [97, 10, 98, 10] := by decide

/-- sixteen bytes and EOF with a 16-byte buffer: copied, *no* newline appended. -/
example : (stderrLoop good extNone 16 (List.replicate 16 97)).written = List.replicate 16 97 := by decide
example : finalNewline 16 (List.replicate 16 97) = [] := by decide
example : finalNewline 16 (List.replicate 15 97) = [10] := by decide

/-- `[INFO] x\n` → one info record; `panic: x\ny\n` → two error records. -/
example : (stderrLoop good extNone 64 [91, 73, 78, 70, 79, 93, 32, 120, 10]).recs =
    [⟨.info, [91, 73, 78, 70, 79, 93, 32, 120], false, []⟩] := by decide
example : ((stderrLoop good extNone 64 [112, 97, 110, 105, 99, 58, 32, 120, 10, 121, 10]).recs.map (·.level)) =
    [.error, .error] := by decide

/-- 17 bytes + `\n` with a 16-byte buffer: two debug chunks (16 + 1). -/
example : (stderrLoop good extNone 16 (List.replicate 17 97 ++ [10])).recs =
    [rawRec .debug (List.replicate 16 97), rawRec .debug [97]] := by decide

/-- an hclog line `{"@message":"hi","@level":"WARN","k":1}` (as decoded by the external view):
one warn record with message `hi` and args `k`, `timestamp`. -/
def extHclog : Ext :=
  ⟨fun _ => .object [(kMessage, .str [104, 105]), (kLevel, .str [87, 65, 82, 78]), ([107], .nonStr)], fun _ => true⟩
example : (stderrLoop good extHclog 64 [123, 125, 10]).recs = [⟨.warn, [104, 105], true, [[107], aTimestamp]⟩] := by decide
example : (stderrLoop good extD6 64 (lineD6 ++ [10])).recs = [rawRec .debug lineD6] := by decide

example : Scanner.consumes ⟨4, true, true⟩ [97, 97, 97, 97, 97, 97, 10, 98] = true := by decide

end GoPlugin.Props.C10
