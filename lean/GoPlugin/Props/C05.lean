import GoPlugin.Lemmas.Lifecycle
import GoPlugin.Props.C01
import GoPlugin.Model.CmdRunner
/-
C05 — A failed start never leaves a plugin process behind.

Three layers: (i) `Handshake.start` (the C01 model): EVERY error return of the
handshake phase — whatever the first line, the client configuration, the
resolvers, or which arm of the select fired — has run the deferred
`runner.Kill`; (ii) the `Lifecycle` model: after a failed start the launched
process is dead, and a later `Kill` returns, calls `runner.Kill` again without
going through `Client()`, and removes the custom runner's socket directory;
(iii) `CmdRunner`: the stock runner's force kill reaches the process it started.
-/
namespace GoPlugin.CmdRunner.Params.Good
private theorem killsOwnHandle {P : Params} (h : P.Good) : P.killsOwnHandle = true := h.1
end GoPlugin.CmdRunner.Params.Good

namespace GoPlugin.Props.C05

/-- **Every failing outcome of the handshake phase has killed the launched process**: timeout, early
exit, closed stdout, malformed line, wrong core version, unparsable / incompatible version, address
translation or resolution failure, disallowed protocol, bad certificate, unsupported or unparsable
multiplexing flag — and a panic. -/
theorem start_failure_kills (P : Handshake.Params) (hK : P.deferKillsOnPanic = true) (hF : P.cleanupKillCtxFresh = true) (c : Handshake.HostCfg) (e : Handshake.Ext) (i : Handshake.Input) :
    (∀ k killed, Handshake.start P c e i = .err k killed → killed = true) ∧
    (∀ killed, Handshake.start P c e i = .panic killed → killed = true) := by
  constructor
  · exact Props.C01.start_err_kills P hF c e i
  · -- only a panicking body gives a panic, and its flag is `deferKillsOnPanic`
    unfold Handshake.start
    cases Handshake.body P c e i with
    | panic => rintro _ ⟨⟩; exact hK
    | _ => intro _ h; cases h

/-- … and a panic raised by code that `Start` calls while the launched process exists — a custom runner's
`PluginToHost` or `Diagnose`, the host's logger — reaches the caller only after the process has been killed
(fact: the deferred clean-up recovers, kills when a panic is in flight, and re-panics). -/
theorem foreign_panic_kills (P : Handshake.Params) (hP : P.Good) : Handshake.startForeignPanic P = .panic true := by
  simp [Handshake.startForeignPanic, Handshake.deferred, hP.deferKillsOnPanic]

/-- a clean-up that only looks at the named result `err` skips the kill while a panic unwinds (`err` is still nil) -/
theorem no_recover_witness : Handshake.startForeignPanic ⟨true, true, 4, 50, 1, true, false, true⟩ = .panic false := by decide

/-- With the good facts a start either succeeds with an address or fails having killed the process: there is
no third outcome (no nil error with nil address, which would leave the process running). -/
theorem start_ok_or_killed (P : Handshake.Params) (hP : P.Good) (c : Handshake.HostCfg) (e : Handshake.Ext) (i : Handshake.Input) :
    (∃ a p v, Handshake.start P c e i = .ok a p v) ∨ (∃ k, Handshake.start P c e i = .err k true) := by
  have hnp := Props.C01.start_never_panics P hP c e i
  cases h : Handshake.start P c e i with
  | ok a p v => exact Or.inl ⟨a, p, v, rfl⟩
  | okNoAddr => exact absurd h hnp.2
  | err k killed =>
    have := Props.C01.start_err_kills P hP.cleanupKillCtxFresh c e i k killed h
    subst this; exact Or.inr ⟨k, rfl⟩
  | panic killed => exact absurd h (hnp.1 killed)

open Lifecycle in
/-- **In the lifecycle model a failed first start leaves the launched process dead**, for both launch methods. -/
theorem failed_start_process_dead (P : Params) (l : Launch) (hl : l = .cmd ∨ l = .runnerFunc) :
    ∃ s, step P (init l false) (.start false) = some s ∧ s.procs 0 = some false ∧ s.launches = 1 ∧ s.kills = 1 ∧
      s.outs = [.err] ∧ s.addr = none := by
  rcases hl with rfl | rfl <;> simp [step, doStart, init, emit, updP]

open Lifecycle in
/-- **A later Kill returns, force-kills through the runner and removes the socket directory.** -/
theorem kill_after_failed_start (P : Params) (hP : P.Good) (a b : Bool) :
    ∃ s, runFrom P (init .runnerFunc false) [.start false, .killA a b, .killB] = some s ∧
      s.dirsLive = 0 ∧ s.runner = none ∧ s.kills = 2 ∧ s.launches = 1 ∧ s.cached = none := by
  simp [runFrom, step, doStart, init, emit, hP.retryGuard, hP.addrShortCircuit, hP.killRemovesDir]

open Lifecycle in
/-- Retrying after the failure launches nothing more (so nothing more can be left behind). -/
theorem retry_after_failed_start (P : Params) (hP : P.Good) (l : Launch) (alive : Bool) (s : State)
    (h : Reachable P l alive s) : s.launches ≤ 1 ∧ s.dirsCreated ≤ 1 :=
  have hi := inv_of_reachable P hP l alive s h
  ⟨hi.once, hi.dirs_le_one⟩

open Lifecycle in
/-- Witness: if Kill's deferred function did not remove the directory it would stay. -/
theorem dir_left_witness :
    ∃ s, runFrom ⟨true, true, true, false, true, true, true⟩ (init .runnerFunc false) [.start false, .killA false false, .killB] = some s ∧
      s.dirsLive = 1 :=
  exists_some_of_any (by decide)

/-- **The stock runner's force kill reaches the process it started, whatever the host configured on the command**
(process attributes of its own or none, leading a process group or not) — so every "the clean-up calls `runner.Kill`"
above means "the process is ended" for command launches. -/
theorem cmd_kill_reaches (P : CmdRunner.Params) (hP : P.Good) (c : CmdRunner.CmdCfg) : CmdRunner.killReaches P c = true := by
  simp [CmdRunner.killReaches, hP.killsOwnHandle]

/-- Witness: a kill that addresses the process's GROUP misses a command whose own attributes do not make it a group
leader (the runner left them alone, as it should). -/
theorem group_kill_witness : CmdRunner.killReaches ⟨false, true⟩ ⟨true, false⟩ = false := by decide

end GoPlugin.Props.C05
