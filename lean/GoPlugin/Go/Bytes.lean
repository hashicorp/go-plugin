/-
Byte-level models of the Go standard-library fragments go-plugin's handshake
code leans on: `strings.TrimSpace`, `strings.Split` on a single byte,
`strconv.Atoi`, `strconv.Itoa`, `strconv.ParseBool`, `strings.Join`.

Go strings are arbitrary byte sequences, so everything is `List UInt8`.
All definitions are structurally recursive so that `decide` reduces them.
-/
namespace GoPlugin

abbrev Bytes := List UInt8

namespace Go

/-! ### strings.Split(s, sep) for a one-byte separator -/

/-- `strings.Split(s, string(sep))`: always at least one field. -/
def split (sep : UInt8) : Bytes → List Bytes
  | [] => [[]]
  | c :: cs =>
    if c = sep then [] :: split sep cs
    else match split sep cs with
      | [] => [[c]]                 -- unreachable (split is never empty); kept total
      | f :: fs => (c :: f) :: fs

/-- `strings.Join(fields, string(sep))`. -/
def join (sep : UInt8) : List Bytes → Bytes
  | [] => []
  | [f] => f
  | f :: g :: fs => f ++ sep :: join sep (g :: fs)

/-! ### strings.TrimSpace -/

/-- ASCII white space as `unicode.IsSpace` sees it: `\t \n \v \f \r` and space. -/
def isAsciiSpace (c : UInt8) : Bool :=
  c = 9 || c = 10 || c = 11 || c = 12 || c = 13 || c = 32

/-- Strip every leading UTF-8 encoded `unicode.IsSpace` rune.  An invalid or
non-space rune stops the scan, as `utf8.DecodeRune` returns `RuneError`. -/
def trimLeft : Bytes → Bytes
  | [] => []
  | c :: rest =>
    if isAsciiSpace c then trimLeft rest
    else match c, rest with
      -- U+0085, U+00A0
      | 0xC2, d :: rest' => if d = 0x85 || d = 0xA0 then trimLeft rest' else c :: rest
      -- U+1680
      | 0xE1, d :: e :: rest' => if d = 0x9A && e = 0x80 then trimLeft rest' else c :: rest
      -- U+2000–U+200A, U+2028, U+2029, U+202F, U+205F
      | 0xE2, d :: e :: rest' =>
        if (d = 0x80 && ((0x80 ≤ e && e ≤ 0x8A) || e = 0xA8 || e = 0xA9 || e = 0xAF))
            || (d = 0x81 && e = 0x9F) then trimLeft rest' else c :: rest
      -- U+3000
      | 0xE3, d :: e :: rest' => if d = 0x80 && e = 0x80 then trimLeft rest' else c :: rest
      | _, _ => c :: rest

/-- Same on the reversed string (`utf8.DecodeLastRune`): the encodings appear reversed. -/
def trimLeftRev : Bytes → Bytes
  | [] => []
  | c :: rest =>
    if isAsciiSpace c then trimLeftRev rest
    else match rest with
      | d :: rest' =>
        if d = 0xC2 && (c = 0x85 || c = 0xA0) then trimLeftRev rest'
        else match rest' with
          | e :: rest'' =>
            if (e = 0xE1 && d = 0x9A && c = 0x80)
               || (e = 0xE2 && d = 0x80 && ((0x80 ≤ c && c ≤ 0x8A) || c = 0xA8 || c = 0xA9 || c = 0xAF))
               || (e = 0xE2 && d = 0x81 && c = 0x9F)
               || (e = 0xE3 && d = 0x80 && c = 0x80) then trimLeftRev rest''
            else c :: rest
          | [] => c :: rest
      | [] => c :: rest

/-- `strings.TrimSpace`. -/
def trimSpace (s : Bytes) : Bytes :=
  (trimLeftRev (trimLeft s).reverse).reverse

/-! ### strconv.Atoi / Itoa -/

def isDigit (c : UInt8) : Bool := 48 ≤ c && c ≤ 57

/-- Value of a non-empty all-digit string, most significant digit first. -/
def digitsVal : Bytes → Nat → Option Nat
  | [], acc => some acc
  | c :: cs, acc => if isDigit c then digitsVal cs (acc * 10 + (c.toNat - 48)) else none

/-- `strconv.Atoi` on 64-bit: optional sign, at least one decimal digit,
no underscores, range error outside int64.  `none` = any error. -/
def atoi (s : Bytes) : Option Int :=
  match s with
  | [] => none
  | 43 :: ds =>    -- '+'
    if ds = [] then none else
    match digitsVal ds 0 with
    | some n => if n < 2^63 then some (Int.ofNat n) else none
    | none => none
  | 45 :: ds =>    -- '-'
    if ds = [] then none else
    match digitsVal ds 0 with
    | some n => if n ≤ 2^63 then some (- Int.ofNat n) else none
    | none => none
  | ds =>
    match digitsVal ds 0 with
    | some n => if n < 2^63 then some (Int.ofNat n) else none
    | none => none

/-- Decimal digits of `n`, most significant first, with fuel (`n+1` is always enough). -/
def natDigitsAux : Nat → Nat → Bytes → Bytes
  | 0, _, acc => acc
  | fuel+1, n, acc =>
    let acc' := (UInt8.ofNat (48 + n % 10)) :: acc
    if n / 10 = 0 then acc' else natDigitsAux fuel (n / 10) acc'

def natDigits (n : Nat) : Bytes := natDigitsAux (n + 1) n []

/-- `strconv.Itoa`. -/
def itoa (i : Int) : Bytes :=
  match i with
  | Int.ofNat n => natDigits n
  | Int.negSucc n => 45 :: natDigits (n + 1)

/-! ### strconv.ParseBool -/

def parseBool (s : Bytes) : Option Bool :=
  if s = [49] ∨ s = [116] ∨ s = [84] ∨ s = [84, 82, 85, 69] ∨ s = [116, 114, 117, 101] ∨ s = [84, 114, 117, 101]
  then some true
  else if s = [48] ∨ s = [102] ∨ s = [70] ∨ s = [70, 65, 76, 83, 69] ∨ s = [102, 97, 108, 115, 101] ∨ s = [70, 97, 108, 115, 101]
  then some false
  else none

end Go
end GoPlugin
