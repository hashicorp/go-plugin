/-
`Sync` — a small interleaving semantics of goroutines over shared cells, used
by C20 (data races, double close, duplicate ids).

A goroutine is a list of atomic `Action`s: plain `read`/`write` of a cell,
`lock`/`unlock` of a mutex, `atomicAdd` on a cell (sync/atomic add-and-fetch),
`closeChan`, `onceDo o body` (sync.Once.Do: the first caller runs `body`, callers
arriving while it runs block, later callers skip) and `emit c` (return the value
last loaded into the goroutine's register as a result for cell `c`).  The
scheduler is the quantifier over schedules: a schedule is a list of goroutine
indices; `step s g` executes goroutine `g`'s next action if it is enabled
(`lock m` needs `m` free, `unlock m` needs `m` held by `g`, `onceDo o` needs
`o` not being run by somebody else).

Values are tracked only as far as the id-allocation statements need them: a
`read c` loads the cell into the goroutine's register, a `write c` stores
register+1 (the `x++` write-back), `atomicAdd c` increments modulo the word size
`W` (2^32 for `uint32`) and returns the new value.

Also here: the shape of one row of the extracted ACCESS TABLE (`Access`, tie T-A)
and the decision procedure `checkTable`; Instance/C20.lean evaluates `Props.C20.checkTableByField` over the
table, which implies it (`checkTableByField_sound`).
-/
namespace GoPlugin.Sync

/-- actions allowed inside a `sync.Once` body (no locking inside: none of the
`Once` bodies in go-plugin locks) -/
inductive Simple
  | read (c : Nat)
  | write (c : Nat)
  | atomicAdd (c : Nat)
  | closeChan (ch : Nat)
  deriving DecidableEq, Repr

inductive Action
  | simple (a : Simple)
  | lock (m : Nat)
  | unlock (m : Nat)
  | onceDo (o : Nat) (body : List Simple)
  | emit (c : Nat)
  deriving DecidableEq, Repr

inductive OnceSt
  | fresh
  | running (g : Nat)
  | done
  deriving DecidableEq, Repr

inductive AccKind
  | read
  | write
  | atomic
  deriving DecidableEq, Repr

/-- two accesses to one cell conflict unless both are plain reads or both atomic -/
def conflict : AccKind → AccKind → Bool
  | .read, .read => false
  | .atomic, .atomic => false
  | _, _ => true

def simpleAcc : Simple → Option (Nat × AccKind)
  | .read c => some (c, .read)
  | .write c => some (c, .write)
  | .atomicAdd c => some (c, .atomic)
  | .closeChan _ => none

def upd {α : Type} (f : Nat → α) (i : Nat) (v : α) : Nat → α :=
  fun j => if j = i then v else f j

structure State where
  /-- remaining top-level actions of each goroutine (`[]` = finished / not started) -/
  progs : Nat → List Action
  /-- goroutine `g` is inside `once.Do` of `o` with these body actions left -/
  frame : Nat → Option (Nat × List Simple)
  /-- mutex ↦ goroutine that locked it -/
  holder : Nat → Option Nat
  /-- mutexes goroutine `g` locked and has not unlocked (its lockset) -/
  held : Nat → List Nat
  once : Nat → OnceSt
  /-- how often `close(ch)` was executed (Go panics at the second) -/
  closes : Nat → Nat
  val : Nat → Nat
  reg : Nat → Nat
  /-- (cell, value) returned by `atomicAdd` / `emit`, newest first -/
  results : List (Nat × Nat)

def init (prog : Nat → List Action) : State :=
  ⟨prog, fun _ => none, fun _ => none, fun _ => [], fun _ => .fresh, fun _ => 0, fun _ => 0, fun _ => 0, []⟩

/-- effect of a simple action of goroutine `g` (always enabled) -/
def execSimple (W : Nat) (s : State) (g : Nat) : Simple → State
  | .read c => { s with reg := upd s.reg g (s.val c) }
  | .write c => { s with val := upd s.val c ((s.reg g + 1) % W) }
  | .atomicAdd c =>
    { s with val := upd s.val c ((s.val c + 1) % W), reg := upd s.reg g ((s.val c + 1) % W),
             results := (c, (s.val c + 1) % W) :: s.results }
  | .closeChan ch => { s with closes := upd s.closes ch (s.closes ch + 1) }

/-- goroutine `g` takes its next step, if enabled -/
def step (W : Nat) (s : State) (g : Nat) : Option State :=
  match s.frame g with
  | some (o, a :: b) => some (execSimple W { s with frame := upd s.frame g (some (o, b)) } g a)
  | some (o, []) => some { s with frame := upd s.frame g none, once := upd s.once o .done }
  | none =>
    match s.progs g with
    | [] => none
    | .simple a :: r => some (execSimple W { s with progs := upd s.progs g r } g a)
    | .lock m :: r =>
      match s.holder m with
      | none => some { s with progs := upd s.progs g r, holder := upd s.holder m (some g), held := upd s.held g (m :: s.held g) }
      | some _ => none
    | .unlock m :: r =>
      if s.holder m = some g then
        some { s with progs := upd s.progs g r, holder := upd s.holder m none,
                      held := upd s.held g ((s.held g).filter (· ≠ m)) }
      else none
    | .onceDo o body :: r =>
      match s.once o with
      | .fresh => some { s with progs := upd s.progs g r, once := upd s.once o (.running g), frame := upd s.frame g (some (o, body)) }
      | .done => some { s with progs := upd s.progs g r }
      | .running _ => none
    | .emit c :: r => some { s with progs := upd s.progs g r, results := (c, s.reg g) :: s.results }

def runFrom (W : Nat) : State → List Nat → Option State
  | s, [] => some s
  | s, g :: gs =>
    match step W s g with
    | some s' => runFrom W s' gs
    | none => none

/-- `s` is reached from the start of program `prog` under some schedule -/
def Reachable (W : Nat) (prog : Nat → List Action) (s : State) : Prop :=
  ∃ sched, runFrom W (init prog) sched = some s

/-- the shared-cell access goroutine `g` performs next, if its next action is one -/
def nextAcc (s : State) (g : Nat) : Option (Nat × AccKind) :=
  match s.frame g with
  | some (_, a :: _) => simpleAcc a
  | some (_, []) => none
  | none =>
    match s.progs g with
    | .simple a :: _ => simpleAcc a
    | _ => none

/-- **Data race on cell `c`**: two different goroutines are both about to perform
conflicting accesses to `c` (both are enabled: the two accesses are adjacent in
some schedule in either order).  No common mutex can order them: `holder` is a
function, so a mutex is held by at most one of them. -/
def Race (s : State) (c : Nat) : Prop :=
  ∃ g1 g2 k1 k2, g1 ≠ g2 ∧ nextAcc s g1 = some (c, k1) ∧ nextAcc s g2 = some (c, k2) ∧ conflict k1 k2 = true

/-- channel `ch` was closed more than once (a panic in Go) -/
def DoubleClose (s : State) (ch : Nat) : Prop := 2 ≤ s.closes ch

instance (s : State) (ch : Nat) : Decidable (DoubleClose s ch) := by unfold DoubleClose; exact inferInstance

/-- values returned for cell `c` (by `atomicAdd c` or `emit c`) -/
def resultsOf (s : State) (c : Nat) : List Nat := (s.results.filter (·.1 = c)).map (·.2)

/-! ### static lockset annotation of a program -/

structure SAccess where
  cell : Nat
  kind : AccKind
  locks : List Nat
  deriving DecidableEq, Repr

def simpleSAcc (H : List Nat) (a : Simple) : Option SAccess :=
  (simpleAcc a).map fun p => ⟨p.1, p.2, H⟩

/-- every shared access of the program with the mutexes held at that point, starting with `H` held -/
def accessesOf : List Action → List Nat → List SAccess
  | [], _ => []
  | .simple a :: r, H => (simpleSAcc H a).toList ++ accessesOf r H
  | .lock m :: r, H => accessesOf r (m :: H)
  | .unlock m :: r, H => accessesOf r (H.filter (· ≠ m))
  | .onceDo _ body :: r, H => body.filterMap (simpleSAcc H) ++ accessesOf r H
  | .emit _ :: r, H => accessesOf r H

/-- **Lockset premise for cell `c`**: any two conflicting accesses to `c` from
different goroutines are made while holding a common mutex. -/
def LocksetOK (prog : Nat → List Action) (c : Nat) : Prop :=
  ∀ g1 g2, g1 ≠ g2 → ∀ a1 ∈ accessesOf (prog g1) [], ∀ a2 ∈ accessesOf (prog g2) [],
    a1.cell = c → a2.cell = c → conflict a1.kind a2.kind = true → ∃ m, m ∈ a1.locks ∧ m ∈ a2.locks

/-! ### the access table (tie T-A) -/

/-- One row of the extracted access table: method `method` reads/writes field
`field` (ids are assigned by the extractor, names are in `Facts.methodNames` /
`Facts.fieldNames`) while holding `locks`; `once` = inside `X.Do(func(){…})` of
that `sync.Once` field; `atomic` = through `sync/atomic`; `role`: 0 = constructor
(composite literal / `newX` function: the object is not shared yet), 1 = exported
method (public concurrent API), 2 = unexported method or function, 3 = goroutine or
escaping closure started inside a method. -/
structure Access where
  method : Nat
  field : Nat
  write : Bool
  locks : List Nat
  once : Option Nat
  atomic : Bool
  role : Nat
  deriving DecidableEq, Repr

def Access.kind (a : Access) : AccKind :=
  if a.atomic then .atomic else if a.write then .write else .read

/-- how writes to a field are ordered before the unlocked reads of it -/
inductive Guard
  /-- writes hold this mutex; the unlocked readers run after the writing section released it -/
  | lock (m : Nat)
  /-- writes happen inside `Do` of this `sync.Once`; readers have returned from `Do` -/
  | once (o : Nat)
  /-- writes happen before the goroutines of the readers are started / before a channel close the readers wait for -/
  | start
  deriving DecidableEq, Repr

/-- A documented publication rule for one field: the field is written only by
`writers` (each write under `guard`), and accessed without the guard only by reads
in `readers` — code that, by the argument recorded next to the rule, runs after
the last write was published. -/
structure Rule where
  field : Nat
  guard : Guard
  writers : List Nat
  readers : List Nat
  deriving DecidableEq, Repr

def guardHeld (g : Guard) (a : Access) : Bool :=
  match g with
  | .lock m => a.locks.contains m
  | .once o => a.once == some o
  | .start => false

def Rule.conforms (r : Rule) (a : Access) : Bool :=
  if a.write then r.writers.contains a.method && (guardHeld r.guard a || r.guard == .start)
  else guardHeld r.guard a || r.readers.contains a.method

/-- an acknowledged race: field + the methods among which it occurs (known finding) -/
structure Known where
  field : Nat
  methods : List Nat
  deriving DecidableEq, Repr

structure Policy where
  rules : List Rule
  /-- methods that run before the object is shared (treated like constructors) -/
  setup : List Nat
  known : List Known
  deriving Repr

def commonLock (a b : Access) : Bool := a.locks.any fun m => b.locks.contains m

def Access.isSetup (P : Policy) (a : Access) : Bool := a.role == 0 || P.setup.contains a.method

def ruleCovers (P : Policy) (a b : Access) : Bool :=
  P.rules.any fun r => r.field == a.field && r.conforms a && r.conforms b

def knownCovers (P : Policy) (a b : Access) : Bool :=
  P.known.any fun k => k.field == a.field && k.methods.contains a.method && k.methods.contains b.method

/-- the pair needs no further justification -/
def pairOK (P : Policy) (a b : Access) : Bool :=
  a.field != b.field || !conflict a.kind b.kind || a.isSetup P || b.isSetup P ||
    commonLock a b || ruleCovers P a b

/-- every conflicting pair of the table is justified or acknowledged -/
def checkTable (P : Policy) (t : List Access) : Bool :=
  t.all fun a => !a.write && !a.atomic || t.all fun b => pairOK P a b || knownCovers P a b

/-- a `close(x.field)` site: `once` = inside `Do` of that Once field; `locks` held; `nilGuard` = the
close is inside `if x.field != nil { close; x.field = nil }` -/
structure CloseSite where
  method : Nat
  chan : Nat
  once : Option Nat
  locks : List Nat
  nilGuard : Bool
  deriving DecidableEq, Repr

/-- the critical section the table row stands for -/
def Access.toSection (a : Access) : List Action :=
  a.locks.map .lock ++
    [.simple (if a.atomic then .atomicAdd a.field else if a.write then .write a.field else .read a.field)] ++
    a.locks.map .unlock

end GoPlugin.Sync
