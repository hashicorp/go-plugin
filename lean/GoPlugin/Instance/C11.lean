import GoPlugin.Props.C11
import GoPlugin.Props.StdioConn
import GoPlugin.Generated.Facts
import GoPlugin.Props.Hygiene
/-
C11 instantiated at the facts extracted from the current source (tie T-A):
the obligation `facts_good` is re-checked on every run.
-/
namespace GoPlugin.Instance.C11
open Stdio Props.C11

/-- The current source has the structural facts the C11 theorems need:
`copyChan` reads into its whole non-empty array and sends exactly `data[:n]`;
the only messages `StreamStdio` skips are empty ones; what it tags the
os.Stdout (os.Stderr) channel with is what the host writes to SyncStdout
(SyncStderr); the context of the StreamStdio call is the client's done-context
with no deadline on the way (fails on a tree that derives it with
`context.WithTimeout`: witness `Props.C11.stream_deadline_witness`) and the host's
dial configures no client keep-alive pings; on net/rpc
both sides use the same, distinct yamux streams for the two pipes. -/
theorem facts_good : Facts.stdio.Good := by decide

theorem holds_per_stream_exact_grpc (outWrites errWrites outReads errReads : List Bytes) (sel : List Msg)
    (hout : ReaderDelivers Facts.stdio.chunk outWrites.flatten outReads)
    (herr : ReaderDelivers Facts.stdio.chunk errWrites.flatten errReads)
    (hsel : GrpcSelect Facts.stdio outReads errReads sel) :
    grpcDeliver Facts.stdio sel = ⟨outWrites.flatten, errWrites.flatten⟩ :=
  per_stream_exact_grpc _ facts_good.1 _ _ _ _ _ hout herr hsel

theorem holds_per_stream_exact_netrpc (outWrites errWrites outReads errReads : List Bytes) (wire : List Seg)
    (hout : outReads.flatten = outWrites.flatten) (herr : errReads.flatten = errWrites.flatten)
    (hw : RpcWire Facts.stdio outReads errReads wire) :
    rpcDeliver Facts.stdio wire = ⟨outWrites.flatten, errWrites.flatten⟩ :=
  per_stream_exact_netrpc _ facts_good.2 _ _ _ _ _ hout herr hw

theorem holds_before_attach_retained_grpc
    (preOut postOut preErr postErr outReads errReads : List Bytes) (sel : List Msg)
    (hout : ReaderDelivers Facts.stdio.chunk (preOut.flatten ++ postOut.flatten) outReads)
    (herr : ReaderDelivers Facts.stdio.chunk (preErr.flatten ++ postErr.flatten) errReads)
    (hsel : GrpcSelect Facts.stdio outReads errReads sel) (k : Nat) :
    let d := grpcDeliver Facts.stdio (sel.take k)
    d.out <+: preOut.flatten ++ postOut.flatten ∧ (d.out <+: preOut.flatten ∨ preOut.flatten <+: d.out) ∧
    d.err <+: preErr.flatten ++ postErr.flatten ∧ (d.err <+: preErr.flatten ∨ preErr.flatten <+: d.err) :=
  before_attach_retained_grpc _ facts_good.1 _ _ _ _ _ _ _ hout herr hsel k

theorem holds_before_attach_retained_netrpc
    (preOut postOut preErr postErr outReads errReads : List Bytes) (wire : List Seg)
    (hout : outReads.flatten = preOut.flatten ++ postOut.flatten)
    (herr : errReads.flatten = preErr.flatten ++ postErr.flatten)
    (hw : RpcWire Facts.stdio outReads errReads wire) (k : Nat) :
    let d := rpcDeliver Facts.stdio (wire.take k)
    d.out <+: preOut.flatten ++ postOut.flatten ∧ (d.out <+: preOut.flatten ∨ preOut.flatten <+: d.out) ∧
    d.err <+: preErr.flatten ++ postErr.flatten ∧ (d.err <+: preErr.flatten ∨ preErr.flatten <+: d.err) :=
  before_attach_retained_netrpc _ facts_good.2 _ _ _ _ _ _ _ hout herr hw k

theorem holds_late_output_delivered_grpc (connEnd : Nat) (tsel : List (Nat × Msg))
    (hlive : ∀ tm ∈ tsel, tm.1 < connEnd) :
    grpcDeliverTimed Facts.stdio connEnd tsel = grpcDeliver Facts.stdio (tsel.map (·.2)) :=
  late_output_delivered_grpc _ facts_good.1 connEnd tsel hlive

theorem holds_per_stream_exact_grpc_timed (connEnd : Nat)
    (outWrites errWrites outReads errReads : List Bytes) (tsel : List (Nat × Msg))
    (hout : ReaderDelivers Facts.stdio.chunk outWrites.flatten outReads)
    (herr : ReaderDelivers Facts.stdio.chunk errWrites.flatten errReads)
    (hsel : GrpcSelect Facts.stdio outReads errReads (tsel.map (·.2)))
    (hlive : ∀ tm ∈ tsel, tm.1 < connEnd) :
    grpcDeliverTimed Facts.stdio connEnd tsel = ⟨outWrites.flatten, errWrites.flatten⟩ :=
  per_stream_exact_grpc_timed _ facts_good.1 connEnd _ _ _ _ tsel hout herr hsel hlive

theorem stdio_conn_good : Facts.stdioConn.Good := by decide

/-- net/rpc, any history of host connections made and dropped: nothing the plugin writes is lost to a connection that has
gone (the repaired defect D13) -/
theorem holds_nothing_lost_across_connections (es : List StdioConn.Ev) (s : StdioConn.State)
    (hr : StdioConn.runFrom Facts.stdioConn StdioConn.init es = some s) : s.lost = [] ∧ s.taken ++ s.pending = s.written :=
  Props.StdioConn.nothing_lost_across_connections _ stdio_conn_good es s hr

theorem holds_slow_writer_loses_nothing (deadlineMs stallMs : Nat) : Hygiene.chunkDelivered Facts.hygiene deadlineMs stallMs = true :=
  Props.Hygiene.slow_writer_loses_nothing _ (by decide) deadlineMs stallMs

end GoPlugin.Instance.C11
