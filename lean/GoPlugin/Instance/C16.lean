import GoPlugin.Props.C16
import GoPlugin.Instance.C01
/-
C16 instantiated at the facts extracted from the current source (tie T-A):
the obligation `facts_good` is re-checked on every run.
-/
namespace GoPlugin.Instance.C16
open Serve Props.C16

/-- The current `Serve` has the structural facts the C16 theorems need: statement
order gate → listener → Init → print → stdout swap → accept, both cookie tests
with exit code 1 through the deferred `os.Exit`, the `%d|%d|%s|%s|%s|%s` format with
its six operands, the guarded `|%v` of `true`, `Printf("%s\n")`, core version 1. -/
theorem facts_good : Facts.serve.Good := by decide

theorem holds_refused (L : Launch) (h : gate L.key L.val L.env = .exit1) :
    serve Facts.serve L = [.exit 1] :=
  refused_exits_1_silently _ facts_good L h

theorem holds_served (L : Launch) (h : gate L.key L.val L.env = .proceed) :
    serve Facts.serve L = [.listen, .init,
      .stdout (serveLine 1 L.appVer L.net L.addr L.proto L.cert (L.env L.muxVar) ++ [nl]),
      .swapStdout, .accept] :=
  served_trace _ facts_good L h

/-- What the current `Serve` prints is read back by the current `Client.Start`
(both sides at their extracted facts). -/
theorem holds_roundtrip (hc : Handshake.HostCfg) (e : Handshake.Ext)
    (L : Launch) (net' addr' : Bytes) (a : Handshake.Addr)
    (hgate : gate L.key L.val L.env = .proceed)
    (hlo : -(2:Int)^63 ≤ L.appVer) (hhi : L.appVer < (2:Int)^63)
    (hoffer : L.appVer ∈ hc.versions) (hallow : L.proto ∈ hc.allowed)
    (htr : e.translate L.net L.addr = some (net', addr'))
    (hres : Handshake.resolve e net' addr' = some a)
    (hn : bar ∉ L.net) (ha : bar ∉ L.addr) (hp : bar ∉ L.proto)
    (hb64 : ∀ c ∈ L.cert, isB64 c = true)
    (hcert : L.cert = [] ∨ (e.certParses L.cert = true ∧ hc.hasTls = true))
    (hmux : hc.mux = true → L.proto = Handshake.sGrpc → L.env L.muxVar ≠ []) :
    ∃ line, realStdout (serve Facts.serve L) = line ++ [nl] ∧
      Handshake.start Facts.handshake hc e (.line line) = .ok a L.proto L.appVer := by
  obtain ⟨-, hServed⟩ := serve_summary _ facts_good L
  obtain ⟨hStdout, -, -⟩ := hServed hgate
  exact ⟨_, hStdout,
    print_parse_roundtrip_b64 _ Instance.C01.facts_good hc e L.appVer L.net L.addr L.proto L.cert _ net' addr' a
      hlo hhi hoffer hallow htr hres hn ha hp hb64 hcert hmux⟩

end GoPlugin.Instance.C16
