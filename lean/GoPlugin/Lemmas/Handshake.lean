import GoPlugin.Model.Handshake
import GoPlugin.Model.Serve
/-
Theorems about the handshake model that several property files use: the facts of `Params.Good` by name, what the
checks of `Client.Start` (`resolve`, `certCheck`, `muxCheck`) decide, in general and on the fields of a line `Serve` printed,
and `parseLine` on a line whose first four fields are known (`parseLine_of_fields`).
-/
namespace GoPlugin.Handshake
open Go

namespace Params.Good
variable {P : Params} (h : P.Good)
include h
theorem addrErrChecked : P.addrErrChecked = true := h.1
theorem certNilGuard : P.certNilGuard = true := h.2.1
theorem minFields : P.minFields = 4 := h.2.2.1
theorem coreVersion : P.coreVersion = 1 := h.2.2.2.1
theorem addressAssignedLast : P.addressAssignedLast = true := h.2.2.2.2.1
theorem deferKillsOnPanic : P.deferKillsOnPanic = true := h.2.2.2.2.2.1
theorem cleanupKillCtxFresh : P.cleanupKillCtxFresh = true := h.2.2.2.2.2.2
end Params.Good

theorem certCheck_pass_iff (P : Params) (hP : P.certNilGuard = true) (c : HostCfg) (e : Ext)
    (rest : List Bytes) :
    certCheck P c e rest = .pass ↔
      (∀ cert, rest[1]? = some cert → cert.length > P.certMinLen →
        c.hasTls = true ∧ e.certParses cert = true) := by
  unfold certCheck
  match rest with
  | [] => simp
  | [_] => simp
  | _ :: cert :: _ =>
    simp only [List.getElem?_cons_succ, List.getElem?_cons_zero, Option.some.injEq, hP]
    by_cases hlen : cert.length > P.certMinLen
    · -- both sides are decided by the two Booleans
      cases hT : c.hasTls <;> cases hC : e.certParses cert <;> simp [hlen, hC]
    · simp [hlen]

theorem certCheck_ne_nilDeref (P : Params) (hP : P.certNilGuard = true) (c : HostCfg) (e : Ext)
    (rest : List Bytes) : certCheck P c e rest ≠ .nilDeref := by
  -- `nilDeref` is the third arm of `certCheck`: a certificate that parses and no TLS configuration, not refused by the
  -- first arm; with the guard the first arm refuses exactly that
  fun_cases certCheck P c e rest
  case case3 hNotRefused _ hNoTls => simp [hP, hNoTls] at hNotRefused
  all_goals simp

theorem muxCheck_none_iff (c : HostCfg) (p : Bytes) (rest : List Bytes) :
    muxCheck c p rest = none ↔
      (c.mux = true → p = sGrpc → ∃ m, rest[2]? = some m ∧ parseBool m = some true) := by
  unfold muxCheck
  by_cases hm : c.mux = true <;> by_cases hp : p = sGrpc
  · simp only [hm, hp, beq_self_eq_true, Bool.and_self, if_true, forall_const]
    match rest with
    | [] => simp
    | [_] => simp
    | [_, _] => simp
    | _ :: _ :: m :: _ =>
      simp only [List.getElem?_cons_succ, List.getElem?_cons_zero, Option.some.injEq, exists_eq_left']
      cases h : parseBool m with
      | none => simp
      | some b => cases b <;> simp
  · simp [hm, hp]
  · simp [hm]
  · simp [hm]

theorem resolve_eq_some_iff (e : Ext) (net address : Bytes) (a : Addr) :
    resolve e net address = some a ↔
      (net = sTcp ∧ e.resolveTcp address = some a) ∨
      (net ≠ sTcp ∧ net = sUnix ∧ e.resolveUnix address = some a) := by
  unfold resolve
  by_cases hn : net = sTcp
  · simp [hn]
  · by_cases hu : net = sUnix
    · subst hu; simp [hn]
    · simp [hn, hu]

/-- `parseLine` on a line whose first four fields are there, with core version 1 and a version that parses: the
offered-version test, the address translation and resolution, then `afterAddr` on the remaining fields. -/
theorem parseLine_of_fields (P : Params) (hP : P.Good) (c : HostCfg) (e : Ext) (l : Bytes)
    (p0 p1 p2 p3 : Bytes) (rest : List Bytes) (v : Int)
    (hs : split bar (trimSpace l) = p0 :: p1 :: p2 :: p3 :: rest) (h0 : atoi p0 = some 1) (h1 : atoi p1 = some v) :
    parseLine P c e l =
      if v ∉ c.versions then .err .versionIncompatible else
      match e.translate p2 p3 with
      | none => .err .translate
      | some (net, address) =>
        match resolve e net address with
        | none => .err .address
        | some a => afterAddr P c e rest v (some a) := by
  have hlen : ¬ (p0 :: p1 :: p2 :: p3 :: rest).length < 4 := by simp
  simp only [parseLine, hs, hP.minFields, hlen, h0, hP.coreVersion, h1, hP.addrErrChecked, if_true, if_false, ne_eq,
    not_true_eq_false]
  rfl  -- the same tests on both sides, through the `match`es of two definitions

theorem certCheck_pass (P : Params) (hg : P.certNilGuard = true) (c : HostCfg) (e : Ext)
    (p cert : Bytes) (r : List Bytes) (h : cert = [] ∨ (e.certParses cert = true ∧ c.hasTls = true)) :
    certCheck P c e (p :: cert :: r) = .pass := by
  rcases h with rfl | ⟨hp, ht⟩
  · simp [certCheck]
  · simp [certCheck, hg, hp, ht]

/-- The multiplexing check on the fields of a printed line: the seventh field is there or not, and says `true`. -/
theorem muxCheck_printed (c : HostCfg) (proto p cert : Bytes) (adv : Prop) [Decidable adv] :
    muxCheck c proto (p :: cert :: (if adv then [Serve.sTrue] else [])) =
      if c.mux && proto == sGrpc && !decide adv then some .muxUnsupported else none := by
  have ht : parseBool Serve.sTrue = some true := by decide
  unfold muxCheck
  by_cases ha : adv
  · simp [ha, ht]  -- the seventh field says `true`: no error on either side
  · simp [ha]      -- no seventh field: the error exactly when the check applies

end GoPlugin.Handshake
