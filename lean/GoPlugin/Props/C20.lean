import GoPlugin.Lemmas.Sync
import GoPlugin.Lemmas.ReplyChan
/-
C20 — Concurrent use of clients and brokers is free of data races and panics.

Generic theorems about the interleaving semantics of `Model/Sync.lean`, proved
once for ALL programs (any number of goroutines, any action lists) and ALL
schedules:

* `lockset_race_free`   the lockset argument: conflicting accesses guarded by a
                         common mutex never race;
* `once_closes_once`    a close that only occurs inside `once.Do` happens at most once;
* `atomic_ids_distinct` add-and-fetch ids are pairwise distinct below the word size;

each followed by a non-vacuity example, and witness theorems showing that the
hypothesis is needed (unguarded pair races; close outside Once closes twice;
`nextId++; return nextId` returns duplicates; the `< W` bound is needed).
The second half lifts the decision procedure `checkTable` run on the extracted
access table to the lockset premise of programs made of the table's rows.

The last part is about a channel the access table does not see — the per-call REPLY
CHANNEL of the broker streamers' `Send` (`Model/ReplyChan.lean`): for any number of
`Send`s interleaved in any way with the stream goroutine and with `Close`, no send
hits a closed channel (`no_send_on_closed_channel`), no reply channel is closed twice
(`reply_channel_closed_once`, every tree) and the stream goroutine is never stuck on
a reply (`reply_always_deliverable`); witnesses for both facts.
-/
namespace GoPlugin.Props.C20
open Sync

/-- the state reached by a concrete schedule, for the witnesses that need the state itself: the `Race` witnesses name
the goroutines, the non-vacuity examples hand it to a theorem.  A witness with a decidable property goes by
`reachable_of_any` below. -/
def after (W : Nat) (prog : Nat → List Action) (sched : List Nat) (h : (runFrom W (init prog) sched).isSome) : State :=
  (runFrom W (init prog) sched).get h

private theorem after_reachable (W : Nat) (prog : Nat → List Action) (sched : List Nat) (h) :
    Reachable W prog (after W prog sched h) := ⟨sched, by simp [after]⟩

/-- a witness state with a decidable property: name the schedule, evaluate it once.  `Sync.Reachable` and
`ReplyChan.Reachable` both unfold to the `∃ es, run es = some s` of the conclusion. -/
private theorem reachable_of_any {σ ε : Type} {run : List ε → Option σ} {p : σ → Prop} [DecidablePred p] (es : List ε)
    (h : (run es).any (fun s => decide (p s)) = true) : ∃ s, (∃ es, run es = some s) ∧ p s :=
  let ⟨s, hs, hp⟩ := exists_some_of_any h
  ⟨s, ⟨es, hs⟩, hp⟩

/-- **Lockset race freedom.**  If any two conflicting accesses to cell `c` from
different goroutines are made while holding a common mutex (`LocksetOK`, a static
property of the program text), then no state reachable under any schedule has a
data race on `c`. -/
theorem lockset_race_free (W : Nat) (prog : Nat → List Action) (c : Nat) (hp : LocksetOK prog c)
    (s : State) (h : Reachable W prog s) : ¬ Race s c := by
  have hi := linv_reachable s h
  rintro ⟨g1, g2, k1, k2, hne, hn1, hn2, hk⟩
  obtain ⟨m, hm1, hm2⟩ := hp g1 g2 hne _ (nextAcc_mem hi g1 c k1 hn1) _ (nextAcc_mem hi g2 c k2 hn2) rfl rfl hk
  -- `m` has one holder
  exact hne (Option.some.inj ((hi.held_holder g1 m hm1).symm.trans (hi.held_holder g2 m hm2)))

def guardedProg : Nat → List Action
  | 0 => [.lock 7, .simple (.write 1), .unlock 7, .simple (.atomicAdd 2)]
  | 1 => [.lock 7, .simple (.read 1), .unlock 7, .simple (.atomicAdd 2)]
  | _ => []

private theorem locksetOK_of_guard (prog : Nat → List Action) (c m : Nat)
    (h : ∀ g, ∀ a ∈ accessesOf (prog g) [], a.cell = c → m ∈ a.locks) : LocksetOK prog c :=
  fun g1 g2 _ a1 h1 a2 h2 hc1 hc2 _ => ⟨m, h g1 a1 h1 hc1, h g2 a2 h2 hc2⟩

private theorem guardedProg_ok : LocksetOK guardedProg 1 :=
  locksetOK_of_guard guardedProg 1 7 fun g =>
    match g with
    | 0 => by decide
    | 1 => by decide
    | _ + 2 => fun _ h => nomatch h

/-- non-vacuity: the premise holds for a program with real contention, and the critical sections do run -/
example : ∃ s, Reachable 4294967296 guardedProg s ∧ ¬ Race s 1 ∧ s.holder 7 = some 1 :=
  ⟨after 4294967296 guardedProg [0, 0, 0, 1] (by decide), after_reachable ..,
   lockset_race_free _ _ _ guardedProg_ok _ (after_reachable ..), by decide⟩

def unguardedProg : Nat → List Action
  | 0 => [.simple (.write 1)]
  | 1 => [.simple (.read 1)]
  | _ => []

/-- **Witness: the premise is needed.**  An unguarded write/read pair DOES race (already in the initial state). -/
theorem unguarded_pair_races : ∃ s, Reachable 4294967296 unguardedProg s ∧ Race s 1 :=
  ⟨init unguardedProg, ⟨[], rfl⟩, 0, 1, .write, .read, by decide, by decide, by decide, by decide⟩

/-- **Witness**: a read under the mutex does not help if the writer does not take it (`Exited()` locked, writer unlocked). -/
def oneSidedProg : Nat → List Action
  | 0 => [.lock 7, .simple (.read 1), .unlock 7]
  | 1 => [.simple (.write 1)]
  | _ => []

theorem one_sided_lock_races : ∃ s, Reachable 4294967296 oneSidedProg s ∧ Race s 1 :=
  ⟨after 4294967296 oneSidedProg [0] (by decide), after_reachable ..,
   0, 1, .read, .write, by decide, by decide, by decide, by decide⟩

/-- **A close guarded by `sync.Once` happens at most once.**  If in every goroutine
`close(ch)` occurs only inside `Do` of the Once `o` (at most once per body), then in
no reachable state — any number of callers, any schedule — has `ch` been closed twice. -/
theorem once_closes_once (W : Nat) (prog : Nat → List Action) (ch o : Nat)
    (hp : ∀ g, ∀ a ∈ prog g, ClosesOK ch o a) (s : State) (h : Reachable W prog s) : ¬ DoubleClose s ch := by
  have := (oinv_reachable hp s h).le_one
  unfold DoubleClose; omega

/-- every goroutine closes channel 5 through Once 9 (`GRPCBroker.Close`, `rmListener.close`) -/
def onceProg : Nat → List Action := fun _ => [.onceDo 9 [.closeChan 5], .onceDo 9 [.closeChan 5]]

/-- non-vacuity: infinitely many callers, the close does happen, and only once -/
example : (∀ g, ∀ a ∈ onceProg g, ClosesOK 5 9 a) ∧
    ∃ s, Reachable 4 onceProg s ∧ s.closes 5 = 1 ∧ ¬ DoubleClose s 5 := by
  have hp : ∀ g, ∀ a ∈ onceProg g, ClosesOK 5 9 a := by
    intro g a ha; simp [onceProg] at ha; subst ha; simp [ClosesOK]
  exact ⟨hp, after 4 onceProg [0, 0, 0, 1, 1, 0] (by decide), after_reachable .., by decide,
    once_closes_once 4 onceProg 5 9 hp _ (after_reachable ..)⟩

/-- **Witness**: the same close outside `Once`, two callers: closed twice (a panic in Go). -/
def plainCloseProg : Nat → List Action := fun g => if g < 2 then [.simple (.closeChan 5)] else []

theorem close_outside_once_closes_twice : ∃ s, Reachable 4 plainCloseProg s ∧ DoubleClose s 5 :=
  reachable_of_any [0, 1] (by decide)

/-- **Witness**: two different `Once` objects guarding one channel do not help either. -/
def twoOncesProg : Nat → List Action := fun g => if g < 2 then [.onceDo g [.closeChan 5]] else []

theorem two_onces_close_twice : ∃ s, Reachable 4 twoOncesProg s ∧ DoubleClose s 5 :=
  reachable_of_any [0, 0, 1, 1] (by decide)

/-- **Atomic ids are distinct.**  Cell `c` is only ever changed by `atomicAdd`
(add-and-fetch modulo the word size `W`; `NextId` is `atomic.AddUint32(&nextId, 1)`,
`W = 2^32`).  Then in every reachable state — any number of callers and calls, every
interleaving — in which fewer than `W` ids have been handed out, the ids handed out
are pairwise distinct. -/
theorem atomic_ids_distinct (W : Nat) (prog : Nat → List Action) (c : Nat)
    (hp : ∀ g, ∀ a ∈ prog g, NoPlain c a) (s : State) (h : Reachable W prog s)
    (hbound : (resultsOf s c).length < W) : (resultsOf s c).Nodup := by
  obtain ⟨-, -, hNodup⟩ := (ainv_reachable hp s h).counter hbound
  exact hNodup

/-- the ids are exactly `1 … n` -/
theorem atomic_ids_range (W : Nat) (prog : Nat → List Action) (c : Nat)
    (hp : ∀ g, ∀ a ∈ prog g, NoPlain c a) (s : State) (h : Reachable W prog s)
    (hbound : (resultsOf s c).length < W) : ∀ v ∈ resultsOf s c, 1 ≤ v ∧ v ≤ (resultsOf s c).length := by
  obtain ⟨-, hRange, -⟩ := (ainv_reachable hp s h).counter hbound
  exact hRange

/-- every goroutine calls `NextId` twice -/
def nextIdProg : Nat → List Action := fun _ => [.simple (.atomicAdd 3), .simple (.atomicAdd 3)]

/-- non-vacuity: three callers interleaved, five ids handed out, all distinct -/
example : ∃ s, Reachable 4294967296 nextIdProg s ∧ resultsOf s 3 = [5, 4, 3, 2, 1] ∧ (resultsOf s 3).Nodup := by
  have hp : ∀ g, ∀ a ∈ nextIdProg g, NoPlain 3 a := by
    intro g a ha; simp [nextIdProg] at ha; subst ha; simp [NoPlain]
  exact ⟨after 4294967296 nextIdProg [0, 1, 2, 1, 0] (by decide), after_reachable .., by decide,
    atomic_ids_distinct _ _ 3 hp _ (after_reachable ..) (by decide)⟩

/-- `m.nextId++; return m.nextId` as the compiler sees it: load, store+1, load, return -/
def plainNextId : List Action := [.simple (.read 3), .simple (.write 3), .simple (.read 3), .emit 3]

/-- **Witness**: the non-atomic `nextId++` returns the same id to two callers — and the two callers race. -/
def plainNextIdProg : Nat → List Action := fun g => if g < 2 then plainNextId else []

theorem nonatomic_nextid_duplicates :
    ∃ s, Reachable 4294967296 plainNextIdProg s ∧ resultsOf s 3 = [1, 1] ∧ ¬ (resultsOf s 3).Nodup :=
  reachable_of_any [0, 1, 0, 1, 0, 0, 1, 1] (by decide)

theorem nonatomic_nextid_races : ∃ s, Reachable 4294967296 plainNextIdProg s ∧ Race s 3 :=
  ⟨after 4294967296 plainNextIdProg [0] (by decide), after_reachable ..,
   0, 1, .write, .read, by decide, by decide, by decide, by decide⟩

/-- **Witness: the bound is needed.**  With a 2-bit word the fifth id repeats the first (uint32 wraps the same way after 2^32 calls). -/
def fiveCallsProg : Nat → List Action := fun g => if g = 0 then List.replicate 5 (.simple (.atomicAdd 3)) else []

theorem wraparound_duplicates :
    ∃ s, Reachable 4 fiveCallsProg s ∧ resultsOf s 3 = [1, 0, 3, 2, 1] ∧ ¬ (resultsOf s 3).Nodup :=
  reachable_of_any [0, 0, 0, 0, 0] (by decide)

/-- `checkTable` is what it says: every conflicting pair of rows is justified
(constructor/setup phase, common mutex, or a publication rule both rows conform to) or is an acknowledged finding. -/
theorem checkTable_sound (P : Policy) (t : List Access) (h : checkTable P t = true)
    (a : Access) (ha : a ∈ t) (b : Access) (hb : b ∈ t) (hc : conflict a.kind b.kind = true) :
    pairOK P a b = true ∨ pairOK P b a = true ∨ knownCovers P a b = true ∨ knownCovers P b a = true := by
  simp only [checkTable, List.all_eq_true, Bool.or_eq_true, Bool.and_eq_true, Bool.not_eq_true'] at h
  -- the check looked at every pair whose first row is not a plain read …
  have row : ∀ a ∈ t, a.kind ≠ .read → ∀ b ∈ t, pairOK P a b = true ∨ knownCovers P a b = true := by
    intro a ha hk b hb
    rcases h a ha with ⟨hNotWrite, hNotAtomic⟩ | hAll
    · exact absurd (by simp [Access.kind, hNotWrite, hNotAtomic]) hk
    · exact hAll b hb
  -- … and of two conflicting rows one is not a plain read
  by_cases hk : a.kind = .read
  · have hk' : b.kind ≠ .read := fun e => by rw [hk, e] at hc; cases hc
    rcases row b hb hk' a ha with h' | h'
    · exact .inr (.inl h')
    · exact .inr (.inr (.inr h'))
  · rcases row a ha hk b hb with h' | h'
    · exact .inl h'
    · exact .inr (.inr (.inl h'))

/-- `checkTable` with the inner sweep restricted to the rows on the same field — every other pair passes `pairOK` by its
first disjunct.  This is the form to evaluate on a large table: one `Nat.beq` per pair, `pairOK` on same-field pairs only. -/
def checkTableByField (P : Policy) (t : List Access) : Bool :=
  t.all fun a => !a.write && !a.atomic ||
    (t.filter fun b => Nat.beq a.field b.field).all fun b => pairOK P a b || knownCovers P a b

theorem checkTableByField_sound (P : Policy) (t : List Access) (h : checkTableByField P t = true) :
    checkTable P t = true := by
  simp only [checkTable, checkTableByField, List.all_eq_true, Bool.or_eq_true] at h ⊢
  intro a ha
  rcases h a ha with h | h
  · exact Or.inl h
  · refine Or.inr fun b hb => ?_
    by_cases hf : a.field = b.field
    · exact h b (List.mem_filter.2 ⟨hb, by rw [hf]; exact Nat.beq_refl _⟩)
    · exact Or.inl (by simp [pairOK, hf])

/-- rows of methods that can run concurrently (not constructors / setup-phase methods) -/
def concurrentRows (P : Policy) (t : List Access) : List Access := t.filter fun a => !a.isSetup P

/-- all conflicting pairs of rows on field `f` share a mutex (no rule needed) -/
def lockProtected (t : List Access) (f : Nat) : Bool :=
  let rows := t.filter (·.field == f)
  rows.all fun a => rows.all fun b => !conflict a.kind b.kind || commonLock a b

/-- each goroutine executes any sequence of the table's critical sections -/
def TableProgram (t : List Access) (prog : Nat → List Action) : Prop :=
  ∀ g, ∃ rows : List Access, (∀ a ∈ rows, a ∈ t) ∧ prog g = rows.flatMap Access.toSection

private theorem acc_locks (ls : List Nat) (rest : List Action) (H : List Nat) :
    accessesOf (ls.map .lock ++ rest) H = accessesOf rest (ls.reverse ++ H) := by
  induction ls generalizing H with
  | nil => rfl
  | cons m ls ih => simp [accessesOf, ih]

private theorem acc_unlocks (ls : List Nat) (rest : List Action) (H : List Nat) :
    ∃ H', accessesOf (ls.map .unlock ++ rest) H = accessesOf rest H' := by
  induction ls generalizing H with
  | nil => exact ⟨H, rfl⟩
  | cons m ls ih => simpa [accessesOf] using ih _

private theorem toSection_acc (a : Access) :
    simpleAcc (if a.atomic then .atomicAdd a.field else if a.write then .write a.field else .read a.field) =
      some (a.field, a.kind) := by
  unfold Access.kind
  -- the four values of the two flags, each by evaluation
  cases a.atomic <;> cases a.write <;> rfl

/-- the annotation of a row's critical section: its one access, made with the row's locks held on top of `H` -/
private theorem acc_section (a : Access) (rest : List Action) (H : List Nat) :
    ∃ H', accessesOf (a.toSection ++ rest) H = ⟨a.field, a.kind, a.locks.reverse ++ H⟩ :: accessesOf rest H' := by
  obtain ⟨H', hH'⟩ := acc_unlocks a.locks rest (a.locks.reverse ++ H)
  refine ⟨H', ?_⟩
  rw [Access.toSection, List.append_assoc, List.append_assoc, acc_locks, List.singleton_append, accessesOf, hH',
    simpleSAcc, toSection_acc]
  rfl

private theorem acc_rows (rows : List Access) (H : List Nat) :
    ∀ x ∈ accessesOf (rows.flatMap Access.toSection) H,
      ∃ a ∈ rows, x.cell = a.field ∧ x.kind = a.kind ∧ ∀ m ∈ a.locks, m ∈ x.locks := by
  induction rows generalizing H with
  | nil => simp [accessesOf]
  | cons a rows ih =>
    intro x hx
    obtain ⟨H', hH'⟩ := acc_section a (rows.flatMap Access.toSection) H
    rw [List.flatMap_cons, hH'] at hx
    rcases List.mem_cons.1 hx with rfl | hx
    · exact ⟨a, List.mem_cons_self, rfl, rfl, fun m hm => List.mem_append_left _ (List.mem_reverse.2 hm)⟩
    · obtain ⟨b, hb, hrest⟩ := ih H' x hx
      exact ⟨b, List.mem_cons_of_mem _ hb, hrest⟩

/-- **The table's lock-protected fields are race free**: for a field of the table
all of whose conflicting rows share a mutex, every program in which any number of
goroutines execute any sequences of the table's critical sections, under every
schedule, never reaches a data race on that field. -/
theorem table_race_free (W : Nat) (t : List Access) (f : Nat) (hf : lockProtected t f = true)
    (prog : Nat → List Action) (hprog : TableProgram t prog) (s : State) (h : Reachable W prog s) : ¬ Race s f := by
  apply lockset_race_free W prog f _ s h
  intro g1 g2 _ a1 h1 a2 h2 hc1 hc2 hk
  obtain ⟨r1, hr1, e1⟩ := hprog g1
  obtain ⟨r2, hr2, e2⟩ := hprog g2
  rw [e1] at h1; rw [e2] at h2
  -- the two accesses come from rows `a`, `b` of the table: same cell and kind, at least the row's locks held
  obtain ⟨a, ha, haCell, haKind, haLocks⟩ := acc_rows r1 [] a1 h1
  obtain ⟨b, hb, hbCell, hbKind, hbLocks⟩ := acc_rows r2 [] a2 h2
  simp only [lockProtected, List.all_eq_true, Bool.or_eq_true, Bool.not_eq_true', List.mem_filter, beq_iff_eq] at hf
  rw [haKind, hbKind] at hk
  rcases hf a ⟨hr1 a ha, haCell ▸ hc1⟩ b ⟨hr2 b hb, hbCell ▸ hc2⟩ with hNoConflict | hCommon
  · rw [hk] at hNoConflict; cases hNoConflict
  · simp only [commonLock, List.any_eq_true, List.contains_iff_mem] at hCommon
    obtain ⟨m, hm1, hm2⟩ := hCommon
    exact ⟨m, haLocks m hm1, hbLocks m hm2⟩

/-- non-vacuity: a two-row table (locked writer, locked reader) -/
example : lockProtected [⟨0, 1, true, [7], none, false, 1⟩, ⟨1, 1, false, [7], none, false, 1⟩] 1 = true := by decide

/-- and the check does reject the one-sided lock -/
example : lockProtected [⟨0, 1, true, [], none, false, 1⟩, ⟨1, 1, false, [7], none, false, 1⟩] 1 = false := by decide

section ReplyChan
open ReplyChan

/-- **No send on a closed channel**, for any number of `Send` calls interleaved in any way with the
stream goroutine and with `Close` of the streamer (shutdown racing in-flight `Accept`s / knocks):
if `Send` returns — and thereby closes its reply channel — only through the receive of the reply
once the request is handed over, and the stream goroutine sends one reply per request, then no
reachable state has panicked. -/
theorem no_send_on_closed_channel (P : ReplyChan.Params) (hG : P.Good) (s : ReplyChan.State)
    (h : ReplyChan.Reachable P s) : s.panicked = false :=
  (inv_reachable P hG s h).noPanic

/-- … and the step that would panic is never even enabled: whenever the stream goroutine holds a
request, that request's reply channel is open and its `Send` is at the receive — the reply can be
delivered at once (the stream goroutine is never stuck on `se.ch <- err`; no goroutine leak). -/
theorem reply_always_deliverable (P : ReplyChan.Params) (hG : P.Good) (s : ReplyChan.State)
    (h : ReplyChan.Reachable P s) (i : Nat) (hw : s.worker = .holding i) :
    s.closed i = false ∧ s.pc i = .waiting ∧ ∃ s', ReplyChan.step P s .reply = some s' ∧ s'.pc i = .returned := by
  obtain ⟨hpc, hcl⟩ := (inv_reachable P hG s h).holding_open hw
  refine ⟨hcl, hpc, ?_⟩
  simp [ReplyChan.step, hw, sendReply, hcl, hpc, returnSend, ReplyChan.upd]

/-- **No reply channel is closed twice** — in EVERY tree (no fact needed: each `Send` closes its
own channel, when it returns, and returns once). -/
theorem reply_channel_closed_once (P : ReplyChan.Params) (s : ReplyChan.State) (h : ReplyChan.Reachable P s)
    (i : Nat) : s.closes i ≤ 1 :=
  (cinv_reachable P s h).le i

/-- non-vacuity: three `Send`s around a `Close` on the current code — one served, one served while
`quit` is already closed, one turned away by the `quit` arm; all returned, every channel closed
once, nothing panicked, the stream goroutine gone. -/
example : ReplyChan.goodParams.Good ∧
    ∃ s, ReplyChan.Reachable ReplyChan.goodParams s ∧ s.panicked = false ∧
      s.pc 0 = .returned ∧ s.pc 1 = .returned ∧ s.pc 2 = .returned ∧
      s.closes 0 = 1 ∧ s.closes 1 = 1 ∧ s.closes 2 = 1 ∧ s.worker = .exited :=
  ⟨by decide,
   reachable_of_any [.call 0, .call 1, .take 0, .call 2, .reply, .take 1, .close, .quitArm 2, .reply, .workerQuit]
     (by decide)⟩

/-- `Send` with `select { case err := <-ch: …; case <-s.quit: return … }` after the hand-over and
`defer close(ch)` kept -/
def earlyReturnParams : ReplyChan.Params := ⟨false, true, true⟩

/-- **Witness: `sendWaitsForReply` is needed.**  One `Send`, `Close` while the stream goroutine is
inside `stream.Send`: `Send` takes the `quit` arm and closes its channel, then the stream goroutine's
`se.ch <- err` is a send on a closed channel — `panic: send on closed channel` in a library goroutine. -/
theorem early_return_send_on_closed_channel :
    ∃ s, ReplyChan.Reachable earlyReturnParams s ∧ s.panicked = true :=
  reachable_of_any [.call 0, .take 0, .close, .giveUp 0, .reply] (by decide)

/-- The same early return without the `defer close(ch)`: no panic, but the stream goroutine is blocked
for ever on a channel nobody receives from (and every later `Send` can only be turned away). -/
theorem early_return_without_close_blocks_stream_goroutine :
    ∃ s, ReplyChan.Reachable ⟨false, false, true⟩ s ∧ s.worker = .holding 0 ∧ s.pc 0 = .returned ∧
      ReplyChan.step ⟨false, false, true⟩ s .reply = none ∧ ReplyChan.step ⟨false, false, true⟩ s .workerQuit = none :=
  reachable_of_any [.call 0, .take 0, .close, .giveUp 0] (by decide)

/-- **Witness: `workerRepliesOnce` is needed.**  A stream goroutine that sends on `se.ch` a second time
finds the channel closed by the `Send` that took the first reply. -/
theorem double_reply_send_on_closed_channel :
    ∃ s, ReplyChan.Reachable ⟨true, true, false⟩ s ∧ s.panicked = true :=
  reachable_of_any [.call 0, .take 0, .reply, .reply] (by decide)

end ReplyChan

end GoPlugin.Props.C20
