import GoPlugin.Lemmas.GrpcMux
/-
C08 — Multiplexed gRPC broker routes each announced stream to its ID's listener.

Quantifiers: both roles of the accepting side (plugin = server muxer, host =
client muxer), every reachable state = every schedule of `Accept`'s statements,
the knock loop, the handshake messages, the main accept loop / the unblocked
listeners and main-connection streams, for any number of ids, accept-first and
dial-first alike; establishments sequential as documented (`Params.sequential`).
-/
namespace GoPlugin.Props.C08
open GrpcMux

def trace1 : List Event :=
  [.mainStream, .xAccept, .dialBegin 7, .runKnock, .acceptBegin 7, .acceptFirst 7, .acceptSecond 7,
     .kRecv, .kAcceptKnock, .kAck, .dialAck, .dialOpen, .xAccept, .mainStream, .xAccept]

/-- **Every stream is routed to the right place**: a stream opened by the dial for id n is
handed to listener n — never to the plugin's main service listener, never to another
id's listener — and main-connection streams go to the main listener. -/
theorem routed_to_its_listener (P : Params) (hP : P.Good) (r : Role) (s : State) (h : Reachable P r s)
    (t : Tag) (d : Dest) (hd : (t, d) ∈ s.delivered) :
    (∀ n, t = .brokered n → d = .listener n) ∧ (t = .main → d = .default) := by
  have := (safe_of_reachable P hP r s h).logs.delivered_ok (t, d) hd
  cases t with
  | main => exact ⟨fun _ hn => (nomatch hn), fun _ => this⟩
  | brokered n => exact ⟨fun _ hm => (Tag.brokered.inj hm ▸ this), fun hm => (nomatch hm)⟩

/-- **The main control connection survives**: the main accept loop never returns a fatal error. -/
theorem main_survives (P : Params) (hP : P.Good) (r : Role) (s : State) (h : Reachable P r s) :
    s.mainDead = false :=
  (safe_of_reachable P hP r s h).logs.alive

/-- **The first call succeeds**: every knock handshake that completes is acknowledged without
error, whichever of accept and dial was issued first. -/
theorem first_call_ok (P : Params) (hP : P.Good) (r : Role) (s : State) (h : Reachable P r s)
    (n : Nat) (ok : Bool) (hr : (n, ok) ∈ s.results) : ok = true :=
  (safe_of_reachable P hP r s h).logs.results_ok (n, ok) hr

/-- Earlier brokered connections are untouched by later establishments: the list of deliveries only grows. -/
theorem delivered_monotone (P : Params) (s s' : State) (e : Event) (hs : step P s e = some s') :
    ∃ l, s'.delivered = s.delivered ++ l := by
  have stale : ∀ e s', stepStale P s e = some s' → s'.delivered = s.delivered := by
    intro e s' h
    revert h
    fun_cases stepStale P s e <;> intro h <;> cases h <;> rfl
  revert hs
  -- branch numbers of `step`: legend in Lemmas/GrpcMux.lean, above `safe_step`
  fun_cases step P s e <;> intro hs
  case case45 | case46 => exact ⟨[], by rw [stale _ _ hs, List.append_nil]⟩
  all_goals cases hs
  -- the accept loop and an unblocked listener hand one stream over; no other event delivers
  case case33 | case34 | case35 | case38 | case42 => exact ⟨_, rfl⟩
  all_goals exact ⟨[], (List.append_nil _).symm⟩

/-! ### Both orders complete (non-vacuity), both roles -/

def pGood : Params := ⟨true, 1, true, true, true⟩

/-- dial first, server role: knock parked, Accept registers then starts the knock loop, stream reaches listener 7;
a main-connection stream before and after goes to the main listener. -/
example : ∃ s, runFrom pGood (init .server) trace1 = some s ∧
    s.delivered = [(.main, .default), (.brokered 7, .listener 7), (.main, .default)] ∧ s.results = [(7, true)] :=
  exists_some_of_any (by decide)

def trace2 : List Event :=
  [.acceptBegin 3, .acceptFirst 3, .acceptSecond 3, .dialBegin 3, .runKnock, .kRecv, .kAcceptKnock, .kAck,
     .dialAck, .dialOpen, .lAccept 3]

/-- accept first, client role -/
example : ∃ s, runFrom pGood (init .client) trace2 = some s ∧
    s.delivered = [(.brokered 3, .listener 3)] ∧ s.results = [(3, true)] :=
  exists_some_of_any (by decide)

def trace3 : List Event :=
  [.dialBegin 7, .runKnock, .acceptBegin 7, .acceptFirst 7, .kRecv, .kAcceptKnock, .kAck, .dialAck, .dialOpen, .xAccept]

/-- the source order before the fix: knock loop started, then listener registered -/
def pOld : Params := ⟨false, 1, true, true, true⟩

/-- D4 (plugin accepts): dial first, the knock loop runs between the two statements of `Accept`:
the stream for id 7 meets a token without a listener — a fatal accept error for the plugin's main gRPC server. -/
theorem race_witness_server :
    ∃ s, runFrom pOld (init .server) trace3 = some s ∧
      s.mainDead = true ∧ s.delivered = [(.brokered 7, .fatal)] :=
  exists_some_of_any (by decide)

def trace4 : List Event :=
  [.dialBegin 7, .runKnock, .acceptBegin 7, .acceptFirst 7, .kRecv, .kAcceptKnock, .kAck, .dialAck]

/-- D4 (host accepts): same schedule, `AcceptKnock` finds no listener: the dial fails. -/
theorem race_witness_client :
    ∃ s, runFrom pOld (init .client) trace4 = some s ∧
      s.results = [(7, false)] :=
  exists_some_of_any (by decide)

def trace5 : List Event :=
  [.acceptBegin 1, .acceptFirst 1, .acceptSecond 1, .acceptBegin 2, .acceptFirst 2, .acceptSecond 2,
       .dialBegin 1, .runKnock, .kRecv, .kAcceptKnock, .kAck, .dialAck, .dialOpen,
       .dialBegin 2, .runKnock, .kRecv, .kAcceptKnock, .lAccept 2]

/-- Outside the property's quantifier (recorded as an observation): if establishments are NOT
sequential, two unblocked host-side listeners both call `session.Accept()` and the stream dialled for
id 1 can be handed to listener 2. -/
theorem overlap_misroute_witness :
    ∃ s, runFrom ⟨true, 1, false, true, true⟩ (init .client) trace5 = some s ∧
      s.delivered = [(.brokered 1, .listener 2)] :=
  exists_some_of_any (by decide)

/-- the listener for id 7 is registered and acknowledged, but its server has not yet reached `Accept()` when the stream arrives -/
def trace6 : List Event :=
  [.acceptBegin 7, .acceptFirst 7, .acceptSecond 7, .dialBegin 7, .runKnock, .kRecv, .kAcceptKnock, .kAck, .dialAck,
     .dialOpen, .xAcceptUnparked]

/-- a hand-off that gives up when the listener is not parked (`select … default`, falling back to the default
listener): the stream dialled for id 7 is served by the plugin's MAIN service listener -/
theorem nonblocking_handoff_witness :
    ∃ s, runFrom ⟨true, 1, true, false, true⟩ (init .server) trace6 = some s ∧ s.delivered = [(.brokered 7, .default)] :=
  exists_some_of_any (by decide)

/-- … whereas the blocking hand-off simply has no such step: the loop waits for the listener -/
example : runFrom pGood (init .server) trace6 = none := by decide

/-- **A new establishment can always begin from a quiescent state**: whatever happened before — including dials that
gave up because nobody accepted their id in time, and accepts of those ids issued later — when no handshake is in
progress and no stream is waiting to be accepted, no token is left over and the next dial's knock is not blocked. -/
theorem dial_can_always_begin (P : Params) (hP : P.Good) (r : Role) (s : State) (h : Reachable P r s)
    (hi : s.hs = .idle) (hq : s.q = []) (id : Nat) : (step P s (.dialBegin id)).isSome ∧ s.tok = none ∧ s.waitCount = 0 := by
  obtain ⟨htok, -, hwc⟩ := (safe_of_reachable P hP r s h).pipe.quiet hi hq
  exact ⟨by simp [step, hi, hq, htok, hwc, noMain], htok, hwc⟩

/-- the dial for id 7 gives up while its knock is parked, the plugin accepts id 7 afterwards -/
def trace7 : List Event :=
  [.dialBegin 7, .runKnock, .dialGiveUp, .acceptBegin 7, .acceptFirst 7, .acceptSecond 7, .kRecvStale 7]

/-- **The former defect**: when parked knocks never expire, a listener accepted later answers the stale knock — the
muxer then holds a token for a stream that will never be opened, with nothing in progress: no later dial can begin
(its `AcceptKnock` would block for ever on the full `knockCh`). -/
theorem stale_knock_witness :
    ∃ s, runFrom ⟨true, 1, true, true, false⟩ (init .server) trace7 = some s ∧ s.hs = .idle ∧ s.q = [] ∧ s.tok = some 7 ∧
      step ⟨true, 1, true, true, false⟩ s (.dialBegin 9) = none :=
  exists_some_of_any (by decide)

/-- with expiry the same history leaves nothing behind (the stale answer is not even a step), and a fresh pair completes -/
example : ∃ s, runFrom pGood (init .server)
      [.dialBegin 7, .runKnock, .dialGiveUp, .acceptBegin 7, .acceptFirst 7, .acceptSecond 7,
       .acceptBegin 9, .acceptFirst 9, .acceptSecond 9, .dialBegin 9, .runKnock, .kRecv, .kAcceptKnock, .kAck, .dialAck, .dialOpen, .xAccept] = some s ∧
    s.delivered = [(.brokered 9, .listener 9)] ∧ s.results = [(9, true)] :=
  exists_some_of_any (by decide)

example : runFrom pGood (init .server) trace7 = none := by decide

/-- **An ID can be accepted again**: after the brokered server of an ID was shut down, accepting the same ID again yields a
listener that waits for the next stream. -/
theorem reaccept_usable (L : ListenerParams) (hL : L.Good) (earlierClosed : Bool) : reacceptUsable L earlierClosed = true := by
  simp [reacceptUsable, show L.listenerReplaces = true from hL]

/-- Witness: a "get or create" registration hands the closed listener out again -/
theorem get_or_create_witness : reacceptUsable ⟨false⟩ true = false := by decide

/-- **Every transport of a brokered connection is announced**: however many times gRPC connects again for the connection
dialled for `id`, each of its streams reaches the accepting side as a stream for `id` — never as a main-service stream. -/
theorem every_transport_announced (D : DialerParams) (hD : D.Good) (id transports : Nat) :
    ∀ t ∈ transportTags D id transports, t = Tag.brokered id := by
  intro t ht
  obtain ⟨k, _, rfl⟩ := List.mem_map.1 ht
  simp [show D.knockPerTransport = true from hD]

/-- Witness: with the knock sent once by `Dial`, the second transport arrives unannounced and goes to the main listener -/
theorem knock_once_witness : transportTags ⟨false⟩ 7 2 = [Tag.brokered 7, Tag.main] := by decide

/-- **A re-accepted id keeps its pending entry** when the listener it replaced is closed a second time: the next knock for
the id reaches the new listener's knock loop. -/
theorem reaccepted_entry_survives (K : KnockLoopParams) (hK : K.Good) (oldClosedAgain : Bool) :
    reacceptedEntrySurvives K oldClosedAgain = true := by
  simp [reacceptedEntrySurvives, hK.closeRemovesOwnEntryOnly]

/-- Witness: removing the entry by id, the second close of the old listener orphans the new listener's knock loop -/
theorem delete_by_id_witness : reacceptedEntrySurvives ⟨true, false⟩ true = false := by decide

end GoPlugin.Props.C08
