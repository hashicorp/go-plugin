import GoPlugin.Model.Sync
import GoPlugin.Lemmas.Run
/-
The three invariants of the `Sync` semantics behind the three generic theorems of Props/C20.lean: `LInv` (a mutex in
a goroutine's lockset is held by it, and the accesses it has still to make are annotated ones) for
`lockset_race_free`, `OInv` (what is closed plus what the runner of the Once may still close is at most one) for
`once_closes_once`, `AInv` (the counter cell is the number of ids handed out) for `atomic_ids_distinct`.
-/
namespace GoPlugin.Sync

theorem isRun (W : Nat) : IsRun (step W) (runFrom W) :=
  ⟨fun _ => rfl, fun s g gs => by simp only [runFrom]; cases step W s g <;> rfl⟩

theorem reachable_induction {W : Nat} {prog : Nat → List Action} {Inv : State → Prop} (h0 : Inv (init prog))
    (hstep : ∀ s g s', Inv s → step W s g = some s' → Inv s') : ∀ s, Reachable W prog s → Inv s :=
  fun _ ⟨_, hes⟩ => (isRun W).invariant hstep h0 hes

@[simp] theorem execSimple_progs (W s g a) : (execSimple W s g a).progs = s.progs := by cases a <;> rfl
@[simp] theorem execSimple_frame (W s g a) : (execSimple W s g a).frame = s.frame := by cases a <;> rfl
@[simp] theorem execSimple_holder (W s g a) : (execSimple W s g a).holder = s.holder := by cases a <;> rfl
@[simp] theorem execSimple_held (W s g a) : (execSimple W s g a).held = s.held := by cases a <;> rfl
@[simp] theorem execSimple_once (W s g a) : (execSimple W s g a).once = s.once := by cases a <;> rfl

theorem upd_same {α : Type} (f : Nat → α) (i : Nat) (v : α) : upd f i v i = v := if_pos rfl

theorem upd_ne {α : Type} (f : Nat → α) {i j : Nat} (v : α) (h : j ≠ i) : upd f i v j = f j := if_neg h

/-! ### what every step does

A step of goroutine `g` consumes the head of `g`'s code — of the `Do` body it is in, else of its program — and has
one effect on the data.  The invariants below use `step` through these lemmas; each goes through the branches of
`step` (`fun_cases`): 1 an action of the `Do` body, 2 the end of the body, 4 a simple action, 5 `lock`, 7 `unlock`,
9 `Do` on a fresh Once, 10 `Do` on a finished Once, 12 `emit` (3, 6, 8, 11 are the disabled ones).  The names after
`case caseN` go to the LAST hypotheses of the branch. -/

theorem step_other {W : Nat} {s s' : State} {g : Nat} (hs : step W s g = some s') {g' : Nat} (hg : g' ≠ g) :
    s'.frame g' = s.frame g' ∧ s'.progs g' = s.progs g' ∧ s'.held g' = s.held g' := by
  revert hs
  fun_cases step W s g <;> intro hs <;> cases hs
  case case1 => rw [execSimple_frame, execSimple_progs, execSimple_held]; exact ⟨upd_ne _ _ hg, rfl, rfl⟩
  case case2 => exact ⟨upd_ne _ _ hg, rfl, rfl⟩
  case case4 => rw [execSimple_frame, execSimple_progs, execSimple_held]; exact ⟨rfl, upd_ne _ _ hg, rfl⟩
  case case5 | case7 => exact ⟨rfl, upd_ne _ _ hg, upd_ne _ _ hg⟩
  case case9 => exact ⟨upd_ne _ _ hg, upd_ne _ _ hg, rfl⟩
  case case10 | case12 => exact ⟨rfl, upd_ne _ _ hg, rfl⟩

theorem step_code {W : Nat} {s s' : State} {g : Nat} (hs : step W s g = some s') (g' : Nat) :
    (∀ a ∈ s'.progs g', a ∈ s.progs g') ∧
    ∀ o b, s'.frame g' = some (o, b) →
      s.frame g' = some (o, b) ∨ (∃ a, s.frame g' = some (o, a :: b)) ∨ .onceDo o b ∈ s.progs g' :=
  if hg : g' = g then by
    subst hg
    have tail : ∀ {a r}, s.progs g' = a :: r → ∀ x ∈ upd s.progs g' r g', x ∈ s.progs g' := fun {a r} hp x hx => by
      rw [upd_same] at hx
      exact hp ▸ List.mem_cons_of_mem _ hx
    revert hs
    fun_cases step W s g' <;> intro hs <;> cases hs
    case case1 o₁ a b₁ hf =>
      rw [execSimple_progs, execSimple_frame]
      exact ⟨fun _ h => h, fun o b hf' => by cases (upd_same s.frame _ _).symm.trans hf'; exact .inr (.inl ⟨a, hf⟩)⟩
    case case2 o₁ hf => exact ⟨fun _ h => h, fun o b hf' => nomatch (upd_same s.frame _ _).symm.trans hf'⟩
    case case4 hf a r hp =>
      rw [execSimple_progs, execSimple_frame]
      exact ⟨tail hp, fun o b hf' => .inl hf'⟩
    case case5 hf m r hp _ | case7 hf m r hp _ => exact ⟨tail hp, fun o b hf' => .inl hf'⟩
    case case9 hf o₁ body r hp _ =>
      exact ⟨tail hp, fun o b hf' => by cases (upd_same s.frame _ _).symm.trans hf'; exact .inr (.inr (hp ▸ List.mem_cons_self))⟩
    case case10 hf o₁ body r hp _ => exact ⟨tail hp, fun o b hf' => .inl hf'⟩
    case case12 hf c r hp => exact ⟨tail hp, fun o b hf' => .inl hf'⟩
  else by
    obtain ⟨hFrame, hProgs, -⟩ := step_other hs hg
    rw [hFrame, hProgs]
    exact ⟨fun _ h => h, fun _ _ h => .inl h⟩

/-- the annotated accesses goroutine `g` has still to make, with the locks it holds now: those of the `Do` body it is
in, then those of its program -/
def remaining (s : State) (g : Nat) : List SAccess :=
  (match s.frame g with
    | some (_, b) => b.filterMap (simpleSAcc (s.held g))
    | none => []) ++ accessesOf (s.progs g) (s.held g)

/-- a step consumes annotated accesses, it never adds one: taking or releasing a lock changes the lockset exactly as
the annotation says, entering a `Do` moves its body from the program to the frame -/
theorem step_remaining_sub {W : Nat} {s s' : State} {g : Nat} (hs : step W s g = some s') (g' : Nat) :
    ∀ a ∈ remaining s' g', a ∈ remaining s g' :=
  if hg : g' = g then by
    subst hg
    intro x
    revert hs
    fun_cases step W s g' <;> intro hs <;> cases hs
    case case1 o a b hf =>
      simp only [remaining, execSimple_frame, execSimple_progs, execSimple_held, upd_same, hf, List.filterMap_cons,
        List.mem_append]
      rintro (hx | hx)
      · left
        cases simpleSAcc (s.held g') a with
        | none => exact hx
        | some sa => exact List.mem_cons_of_mem _ hx
      · exact .inr hx
    case case2 o hf =>
      simp only [remaining, upd_same, hf, List.filterMap_nil]
      exact fun hx => hx
    case case4 hf a r hp =>
      simp only [remaining, execSimple_frame, execSimple_progs, execSimple_held, upd_same, hf, hp, accessesOf,
        List.nil_append]
      exact fun hx => List.mem_append_right _ hx
    case case5 hf m r hp _ | case7 hf m r hp _ =>
      simp only [remaining, upd_same, hf, hp, accessesOf]
      exact fun hx => hx
    case case9 hf o body r hp _ =>
      simp only [remaining, upd_same, hf, hp, accessesOf, List.nil_append]
      exact fun hx => hx
    case case10 hf o body r hp _ =>
      simp only [remaining, upd_same, hf, hp, accessesOf, List.nil_append]
      exact fun hx => List.mem_append_right _ hx
    case case12 hf c r hp =>
      simp only [remaining, upd_same, hf, hp, accessesOf]
      exact fun hx => hx
  else by
    obtain ⟨hFrame, hProgs, hHeld⟩ := step_other hs hg
    unfold remaining
    rw [hFrame, hProgs, hHeld]
    exact fun _ h => h

structure LInv (prog : Nat → List Action) (s : State) : Prop where
  held_holder : ∀ g m, m ∈ s.held g → s.holder m = some g
  remaining_sub : ∀ g, ∀ a ∈ remaining s g, a ∈ accessesOf (prog g) []

theorem linv_init (prog : Nat → List Action) : LInv prog (init prog) := by
  constructor <;> simp [init, remaining]

/-- what `lock m` and `unlock m` by `g` share -/
theorem held_holder_upd {s : State} (h : ∀ g m, m ∈ s.held g → s.holder m = some g) {g m : Nat} {H : List Nat}
    {v : Option Nat} (hin : m ∈ H → v = some g) (hrest : ∀ m' ∈ H, m' ≠ m → m' ∈ s.held g)
    (hm : ∀ g', g' ≠ g → m ∉ s.held g') :
    ∀ g' m', m' ∈ upd s.held g H g' → upd s.holder m v m' = some g' := by
  intro g' m' hm'
  by_cases hg : g' = g
  · subst hg
    rw [upd_same] at hm'
    by_cases hme : m' = m
    · subst hme
      exact (upd_same ..).trans (hin hm')
    · exact (upd_ne _ _ hme).trans (h g' m' (hrest m' hm' hme))
  · rw [upd_ne _ _ hg] at hm'
    have hne : m' ≠ m := fun e => hm g' hg (e ▸ hm')
    exact (upd_ne _ _ hne).trans (h g' m' hm')

theorem linv_step {W : Nat} {prog : Nat → List Action} (s : State) (g : Nat) (s' : State)
    (h : LInv prog s) (hs : step W s g = some s') : LInv prog s' := by
  refine ⟨?_, fun g' a ha => h.remaining_sub g' a (step_remaining_sub hs g' a ha)⟩
  revert hs
  fun_cases step W s g <;> intro hs <;> cases hs
  case case1 | case4 => rw [execSimple_held, execSimple_holder]; exact h.held_holder
  case case2 | case9 | case10 | case12 => exact h.held_holder
  case case5 hf m r hp hfree =>
    -- `m` was free, so it was in nobody's lockset
    have nobody : ∀ g', m ∉ s.held g' := fun g' hm' => nomatch hfree.symm.trans (h.held_holder g' m hm')
    exact held_holder_upd h.held_holder (fun _ => rfl)
      (fun m' hm' hne => (List.mem_cons.1 hm').resolve_left hne) fun g' _ => nobody g'
  case case7 hf m r hp hmine =>
    refine held_holder_upd h.held_holder (fun hm' => ?_) (fun m' hm' _ => (List.mem_filter.1 hm').1)
      fun g' hne hm' => ?_
    · simp at hm'
    · exact hne (Option.some.inj ((h.held_holder g' m hm').symm.trans hmine))

theorem linv_reachable {W : Nat} {prog : Nat → List Action} (s : State) (h : Reachable W prog s) : LInv prog s :=
  reachable_induction (Inv := LInv prog) (linv_init prog) (fun s g s' hi hs => linv_step s g s' hi hs) s h

theorem nextAcc_mem {prog : Nat → List Action} {s : State} (h : LInv prog s) (g c : Nat) (k : AccKind)
    (hn : nextAcc s g = some (c, k)) : (⟨c, k, s.held g⟩ : SAccess) ∈ accessesOf (prog g) [] := by
  apply h.remaining_sub g
  unfold remaining
  revert hn
  -- the next action is an access inside a `Do` body (1) or a simple action of the program (3)
  fun_cases nextAcc s g <;> intro hn
  case case1 o a b hf => simp [hf, simpleSAcc, hn]
  case case3 hf a r hp => simp [hf, hp, accessesOf, simpleSAcc, hn]
  case case2 | case4 => cases hn

/-- `close(ch)` occurs in this action only inside `Do` of Once `o`, at most once per body -/
def ClosesOK (ch o : Nat) : Action → Prop
  | .simple x => x ≠ .closeChan ch
  | .onceDo o' body => body.count (.closeChan ch) = 0 ∨ (o' = o ∧ body.count (.closeChan ch) ≤ 1)
  | _ => True

structure OInv (ch o : Nat) (s : State) : Prop where
  progs_ok : ∀ g, ∀ a ∈ s.progs g, ClosesOK ch o a
  frame_other : ∀ g o' b, s.frame g = some (o', b) → o' ≠ o → b.count (.closeChan ch) = 0
  inside : ∀ g b, s.frame g = some (o, b) → s.once o = .running g ∧ s.closes ch + b.count (.closeChan ch) ≤ 1
  fresh_zero : s.once o = .fresh → s.closes ch = 0
  le_one : s.closes ch ≤ 1

/-- at most one goroutine is inside `Do o`: whoever is in is the recorded runner -/
theorem OInv.inside_unique {ch o : Nat} {s : State} (h : OInv ch o s) {g g' : Nat} {b b' : List Simple}
    (hf : s.frame g = some (o, b)) (hf' : s.frame g' = some (o, b')) : g = g' :=
  OnceSt.running.inj ((h.inside g b hf).1.symm.trans (h.inside g' b' hf').1)

theorem oinv_init (ch o : Nat) (prog : Nat → List Action) (h : ∀ g, ∀ a ∈ prog g, ClosesOK ch o a) :
    OInv ch o (init prog) := by
  constructor <;> simp [init] <;> exact h

theorem execSimple_closes (W s g) (a : Simple) (ch : Nat) :
    (execSimple W s g a).closes ch = s.closes ch + if a == .closeChan ch then 1 else 0 := by
  cases a with
  | closeChan ch' =>
    by_cases hc : ch' = ch
    · subst hc; simp [execSimple, upd]
    · have : ch ≠ ch' := fun e => hc e.symm
      simp [execSimple, upd, hc, this]
  | read _ | write _ | atomicAdd _ => simp [execSimple]

theorem OInv.of_untouched {ch o : Nat} {s s' : State} (h : OInv ch o s)
    (hp : ∀ g, ∀ a ∈ s'.progs g, ClosesOK ch o a)
    (ho : ∀ g o' b, s'.frame g = some (o', b) → o' ≠ o → b.count (.closeChan ch) = 0)
    (honce : s'.once o = s.once o) (hcl : s'.closes ch = s.closes ch)
    (hfr : ∀ g b, s'.frame g = some (o, b) → s.frame g = some (o, b)) : OInv ch o s' :=
  ⟨hp, ho, fun g b hf => honce ▸ hcl ▸ h.inside g b (hfr g b hf), fun hf => hcl ▸ h.fresh_zero (honce ▸ hf),
    hcl ▸ h.le_one⟩

theorem oinv_step {W ch o : Nat} (s : State) (g : Nat) (s' : State)
    (h : OInv ch o s) (hs : step W s g = some s') : OInv ch o s' := by
  -- the two clauses about the code that is left: code only shrinks
  have hprogs : ∀ g', ∀ a ∈ s'.progs g', ClosesOK ch o a := fun g' a ha => h.progs_ok g' a ((step_code hs g').1 a ha)
  have hother : ∀ g' o' b, s'.frame g' = some (o', b) → o' ≠ o → b.count (.closeChan ch) = 0 := by
    intro g' o' b hf hne
    rcases (step_code hs g').2 _ _ hf with hsame | ⟨a, hlonger⟩ | hprog
    · exact h.frame_other g' o' b hsame hne
    · have := h.frame_other g' o' _ hlonger hne
      rw [List.count_cons] at this
      omega
    · rcases h.progs_ok g' _ hprog with hzero | ⟨ho, _⟩
      · exact hzero
      · exact absurd ho hne
  -- Three branches concern Once `o`: an action of the body of `Do o` (1), the end of that body (2), `Do o` on the fresh
  -- Once (9), each with `o' = o`; there the only frame for `o` afterwards is `g`'s (`inside`: whoever is in is the
  -- recorded runner).  Every other branch leaves `once o`, `closes ch` and the frames for `o` as they were
  -- (`of_untouched`).  In each, `hf'` is a frame for `o` read after `g`'s frame was written: it is the written one
  -- (`hv`), or another goroutine's old one (`hg`, `hold`).
  revert hs
  fun_cases step W s g <;> intro hs <;> cases hs
  case case1 o' a b hf =>
    have hcl : (execSimple W { s with frame := upd s.frame g (some (o', b)) } g a).closes ch =
        s.closes ch + if a == .closeChan ch then 1 else 0 := execSimple_closes ..
    have hcnt : (a :: b).count (.closeChan ch) = b.count (.closeChan ch) + if a == .closeChan ch then 1 else 0 :=
      List.count_cons
    by_cases ho : o' = o
    · -- `closes ch` plus the `close(ch)` left in the body stays the same
      subst ho
      obtain ⟨hrun, hc⟩ := h.inside g _ hf
      refine ⟨hprogs, hother, fun g' b' hf' => ?_, fun hfresh => ?_, by omega⟩
      · rw [execSimple_frame] at hf'
        rw [execSimple_once]
        rcases ite_eq_cases hf' with ⟨rfl, hv⟩ | ⟨hg, hold⟩
        · cases hv; exact ⟨hrun, by omega⟩
        · exact absurd (h.inside_unique hold hf) hg
      · rw [execSimple_once, hrun] at hfresh
        cases hfresh
    · have := h.frame_other g o' _ hf ho
      refine h.of_untouched hprogs hother (congrFun (execSimple_once ..) o) (by omega) fun g' b' hf' => ?_
      rw [execSimple_frame] at hf'
      rcases ite_eq_cases hf' with ⟨-, hv⟩ | ⟨-, hold⟩
      · cases hv; exact absurd rfl ho
      · exact hold
  case case2 o' hf =>
    by_cases ho : o' = o
    · -- nobody is inside `Do o` any more
      subst ho
      refine ⟨hprogs, hother, fun g' b' hf' => ?_, fun hfresh => ?_, h.le_one⟩
      · rcases ite_eq_cases hf' with ⟨-, hv⟩ | ⟨hg, hold⟩
        · cases hv
        · exact absurd (h.inside_unique hold hf) hg
      · have hdone : upd s.once o' .done o' = .done := upd_same ..
        cases hdone.symm.trans hfresh
    · refine h.of_untouched hprogs hother (if_neg fun e => ho e.symm) rfl fun g' b' hf' => ?_
      rcases ite_eq_cases hf' with ⟨-, hv⟩ | ⟨-, hold⟩
      · cases hv
      · exact hold
  case case4 a r hp =>
    -- a simple action of the program: it is not `close(ch)`
    have hne : a ≠ .closeChan ch := h.progs_ok g (.simple a) (hp ▸ List.mem_cons_self)
    refine h.of_untouched hprogs hother (congrFun (execSimple_once ..) o) ?_ fun g' b' hf' => ?_
    · rw [execSimple_closes, if_neg (by simpa using hne)]
      rfl
    · rw [execSimple_frame] at hf'
      exact hf'
  case case5 | case7 | case10 | case12 => exact h.of_untouched hprogs hother rfl rfl fun _ _ hf' => hf'
  case case9 hnf o' body r hp hfresh =>
    by_cases ho : o' = o
    · -- nothing was closed yet, and the body closes at most once
      subst ho
      have hpa : ClosesOK ch o' (.onceDo o' body) := h.progs_ok g _ (hp ▸ List.mem_cons_self)
      have hrun : upd s.once o' (.running g) o' = .running g := if_pos rfl
      refine ⟨hprogs, hother, fun g' b' hf' => ?_, fun hf' => (nomatch hrun.symm.trans hf'), h.le_one⟩
      rcases ite_eq_cases hf' with ⟨rfl, hv⟩ | ⟨-, hold⟩
      · cases hv
        have := h.fresh_zero hfresh
        refine ⟨hrun, ?_⟩
        show s.closes ch + _ ≤ 1
        rcases hpa with hz | ⟨_, hle⟩ <;> omega
      · -- nobody else is inside `Do` of a fresh Once
        exact nomatch hfresh.symm.trans (h.inside g' b' hold).1
    · refine h.of_untouched hprogs hother (if_neg fun e => ho e.symm) rfl fun g' b' hf' => ?_
      rcases ite_eq_cases hf' with ⟨-, hv⟩ | ⟨-, hold⟩
      · cases hv; exact absurd rfl ho
      · exact hold

theorem oinv_reachable {W ch o : Nat} {prog : Nat → List Action} (hp : ∀ g, ∀ a ∈ prog g, ClosesOK ch o a) (s : State)
    (h : Reachable W prog s) : OInv ch o s :=
  reachable_induction (Inv := OInv ch o) (oinv_init ch o prog hp) (fun s g s' hi hs => oinv_step s g s' hi hs) s h

/-- the action neither stores to cell `c` non-atomically nor reports a register value as a result for `c` -/
def NoPlain (c : Nat) : Action → Prop
  | .simple x => x ≠ .write c
  | .onceDo _ body => Simple.write c ∉ body
  | .emit c' => c' ≠ c
  | _ => True

/-- counter = number of completed adds; every result is a counter value after its own add -/
def CounterOK (W c : Nat) (s : State) : Prop :=
  (resultsOf s c).length < W →
    s.val c = (resultsOf s c).length ∧ (∀ v ∈ resultsOf s c, 1 ≤ v ∧ v ≤ (resultsOf s c).length) ∧ (resultsOf s c).Nodup

structure AInv (W c : Nat) (s : State) : Prop where
  progs_ok : ∀ g, ∀ a ∈ s.progs g, NoPlain c a
  frame_ok : ∀ g o b, s.frame g = some (o, b) → Simple.write c ∉ b
  counter : CounterOK W c s

theorem ainv_init (W c : Nat) (prog : Nat → List Action) (h : ∀ g, ∀ a ∈ prog g, NoPlain c a) :
    AInv W c (init prog) := by
  constructor
  · exact h
  · simp [init]
  · simp [CounterOK, init, resultsOf]

theorem resultsOf_cons (s : State) (c c' v : Nat) (t : State) (h : t.results = (c', v) :: s.results) :
    resultsOf t c = if c' = c then v :: resultsOf s c else resultsOf s c := by
  unfold resultsOf; rw [h]
  by_cases hc : c' = c <;> simp [hc]

theorem counter_execSimple {W c : Nat} (s : State) (g : Nat) (a : Simple) (ha : a ≠ .write c)
    (h : CounterOK W c s) : CounterOK W c (execSimple W s g a) := by
  -- the invariant looks at `val c` and at the results for `c` only
  have sameView : ∀ t : State, t.val c = s.val c → resultsOf t c = resultsOf s c → CounterOK W c t := fun t h1 h2 => by
    unfold CounterOK at h ⊢
    rw [h1, h2]
    exact h
  cases a with
  | read _ | closeChan _ => exact h
  | write c' => exact sameView _ (if_neg fun (e : c = c') => ha (e ▸ rfl)) rfl
  | atomicAdd c' =>
    have hr := resultsOf_cons s c c' ((s.val c' + 1) % W) (execSimple W s g (.atomicAdd c')) rfl
    by_cases hc : c' = c
    · subst hc
      rw [if_pos rfl] at hr
      unfold CounterOK at h ⊢
      rw [hr]
      intro hlt
      obtain ⟨hv, hb, hn⟩ := h (Nat.lt_of_succ_lt hlt)
      -- the new id is the old counter + 1: above all ids handed out so far
      have hmod : (s.val c' + 1) % W = (resultsOf s c').length + 1 := hv ▸ Nat.mod_eq_of_lt (hv ▸ hlt)
      rw [hmod]
      refine ⟨(if_pos rfl).trans hmod, fun v hv' => ?_, List.nodup_cons.2 ⟨fun hm => ?_, hn⟩⟩
      · rcases List.mem_cons.1 hv' with rfl | hv'
        · exact ⟨Nat.succ_pos _, Nat.le_refl _⟩
        · exact ⟨(hb v hv').1, Nat.le_succ_of_le (hb v hv').2⟩
      · exact absurd (hb _ hm).2 (Nat.not_succ_le_self _)
    · rw [if_neg hc] at hr
      exact sameView _ (if_neg fun e => hc e.symm) hr

theorem ainv_step {W c : Nat} (s : State) (g : Nat) (s' : State)
    (h : AInv W c s) (hs : step W s g = some s') : AInv W c s' := by
  -- the data change only by a simple action, which is not `write c`, or by an `emit c'` with `c' ≠ c`
  have hcount : CounterOK W c s' := by
    revert hs
    fun_cases step W s g <;> intro hs <;> cases hs
    case case1 o a b hf =>
      exact counter_execSimple _ g a (fun e => h.frame_ok g o _ hf (e ▸ List.mem_cons_self))
        h.counter
    case case4 a r hp =>
      exact counter_execSimple _ g a (h.progs_ok g (.simple a) (hp ▸ List.mem_cons_self)) h.counter
    case case12 c' r hp =>
      have hne : c' ≠ c := h.progs_ok g (.emit c') (hp ▸ List.mem_cons_self)
      have h3 := h.counter
      unfold CounterOK at h3 ⊢
      rw [resultsOf_cons s c c' (s.reg g) _ rfl, if_neg hne]
      exact h3
    case case2 | case5 | case7 | case9 | case10 => exact h.counter
  refine ⟨fun g' a ha => h.progs_ok g' a ((step_code hs g').1 a ha), fun g' o b hf => ?_, hcount⟩
  rcases (step_code hs g').2 _ _ hf with hsame | ⟨a, hlonger⟩ | hprog
  · exact h.frame_ok _ _ _ hsame
  · exact fun hm => h.frame_ok _ _ _ hlonger (List.mem_cons_of_mem _ hm)
  · exact h.progs_ok g' _ hprog

theorem ainv_reachable {W c : Nat} {prog : Nat → List Action} (hp : ∀ g, ∀ a ∈ prog g, NoPlain c a) (s : State)
    (h : Reachable W prog s) : AInv W c s :=
  reachable_induction (Inv := AInv W c) (ainv_init W c prog hp) (fun s g s' hi hs => ainv_step s g s' hi hs) s h

end GoPlugin.Sync
