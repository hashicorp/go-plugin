/-
`GRPCBroker` without multiplexing (grpc_broker.go) as a labelled transition
system, one direction of one plugin connection: the accepting side creates a
listener per `Accept(id)` and sends its address as a `ConnInfo{ServiceId: id}`
message on the broker's reliable bidirectional stream; the dialling side's
`Run` loop files each message under `msg.ServiceId` in a one-element slot,
starts the expiry goroutine, and `Dial(id)` waits for the slot's message for
at most the pending window, then dials the address it carries.

Listeners are identified by their index (= their address); the address
translators of a custom runner are taken to be mutually inverse on live
listeners (the identity for the built-in runner) and are left out.
-/
namespace GoPlugin.GrpcBroker

structure Params where
  /-- `Run` files a conn-info message under `clientStreams[msg.ServiceId]` (the map `Dial` reads), not `serverStreams` -/
  filesUnderServiceId : Bool
  /-- the dial address is taken from the message received for the dialled id -/
  dialsReceivedAddr : Bool
  /-- `Run` hands a message to its slot with a non-blocking send (`select` with `default`) -/
  runParkNonBlocking : Bool
  /-- `getClientStream` looks the id up and creates the missing entry in ONE critical section -/
  getStreamAtomic : Bool
  /-- capacity of `gRPCBrokerPending.ch` -/
  slotCap : Nat
  /-- `time.After` in `DialWithOptions` (ms) -/
  dialWindow : Nat
  /-- `time.After` in `timeoutWait` (ms) -/
  expiryWindow : Nat
  deriving DecidableEq, Repr

def Params.Good (P : Params) : Prop :=
  P.filesUnderServiceId = true ∧ P.dialsReceivedAddr = true ∧ P.runParkNonBlocking = true ∧ P.getStreamAtomic = true ∧ P.slotCap = 1

instance (P : Params) : Decidable P.Good := by unfold Params.Good; exact inferInstance

def upd {α : Type} (f : Nat → Option α) (i : Nat) (v : Option α) : Nat → Option α :=
  fun j => if j = i then v else f j

/-- a listener created by `Accept(lid)` on the accepting side -/
structure Listener where
  lid : Nat
  deriving DecidableEq, Repr

/-- `ConnInfo` -/
structure Msg where
  sid : Nat      -- ServiceId
  addr : Nat     -- listener index
  deriving DecidableEq, Repr

structure Slot where
  id : Nat
  buf : Option Msg
  done : Bool
  deriving DecidableEq, Repr

inductive DialPc
  | wait
  /-- dialled listener `addr` -/
  | dialled (addr : Nat)
  | timedOut
  | panicked
  deriving DecidableEq, Repr

structure Dial where
  id : Nat
  slot : Nat
  deadline : Nat
  pc : DialPc
  deriving DecidableEq, Repr

inductive RunPc
  | idle
  | have (k : Nat) (m : Msg)
  /-- blocked in `p.ch <- msg` on a full slot (only possible with a blocking send) -/
  | blocked (k : Nat) (m : Msg)
  deriving DecidableEq, Repr

inductive TwPc | wait | decided | finished
  deriving DecidableEq, Repr

structure Tw where
  id : Nat
  slot : Nat
  deadline : Nat
  pc : TwPc
  deriving DecidableEq, Repr

structure State where
  listeners : Nat → Option Listener
  nListeners : Nat
  /-- conn-info messages in flight on the broker stream, oldest first -/
  wire : List Msg
  /-- `clientStreams` on the dialling side (read by `Dial`) -/
  map : Nat → Option Nat
  /-- `serverStreams` (knocks; unused without multiplexing) -/
  smap : Nat → Option Nat
  slots : Nat → Option Slot
  nSlots : Nat
  dials : Nat → Option Dial
  nDials : Nat
  tws : Nat → Option Tw
  nTws : Nat
  run : RunPc
  now : Nat

def init : State :=
  ⟨fun _ => none, 0, [], fun _ => none, fun _ => none, fun _ => none, 0, fun _ => none, 0, fun _ => none, 0, .idle, 0⟩

inductive Event
  /-- accepting side: `Accept(id)` creates a listener and sends its conn-info -/
  | accept (id : Nat)
  /-- dialling side `Run`: `Recv`, pick the slot, `go timeoutWait` -/
  | runRecv
  /-- dialling side `Run`: non-blocking send into the slot -/
  | runPark
  /-- a blocked `Run` gets its message into the slot after a dialler emptied it -/
  | runUnblock
  /-- a caller enters `Dial(id)` -/
  | dial (id : Nat)
  /-- `Dial(id)` racing with another creator of the same entry (lookup and insert in different critical
  sections): it ends up with an entry of its own and overwrites the map -/
  | dialRacy (id : Nat)
  /-- the dialler receives the conn-info, closes `doneCh` and dials the address -/
  | dialTake (g : Nat)
  | dialTimeout (g : Nat)
  | twWake (t : Nat)
  | twFinish (t : Nat)
  | tick (d : Nat)
  deriving DecidableEq, Repr

/-- `getClientStream(id)` -/
def getStream (s : State) (id : Nat) : State × Nat :=
  match s.map id with
  | some k => (s, k)
  | none =>
    ({ s with map := upd s.map id (some s.nSlots),
              slots := upd s.slots s.nSlots (some ⟨id, none, false⟩),
              nSlots := s.nSlots + 1 }, s.nSlots)

/-- `getServerStream(id)` -/
def getServerStream (s : State) (id : Nat) : State × Nat :=
  match s.smap id with
  | some k => (s, k)
  | none =>
    ({ s with smap := upd s.smap id (some s.nSlots),
              slots := upd s.slots s.nSlots (some ⟨id, none, false⟩),
              nSlots := s.nSlots + 1 }, s.nSlots)

def step (P : Params) (s : State) : Event → Option State
  | .accept id =>
    some { s with listeners := upd s.listeners s.nListeners (some ⟨id⟩), nListeners := s.nListeners + 1,
                  wire := s.wire ++ [⟨id, s.nListeners⟩] }
  | .runRecv =>
    match s.run, s.wire with
    | .idle, m :: w =>
      let r := if P.filesUnderServiceId then getStream { s with wire := w } m.sid
               else getServerStream { s with wire := w } m.sid
      some { r.1 with run := .have r.2 m,
                      tws := upd r.1.tws s.nTws (some ⟨m.sid, r.2, s.now + P.expiryWindow, .wait⟩), nTws := s.nTws + 1 }
    | _, _ => none
  | .runPark =>
    match s.run with
    | .have k m =>
      match s.slots k with
      | some sl =>
        match sl.buf with
        | none => some { s with run := .idle, slots := upd s.slots k (some { sl with buf := some m }) }
        | some _ =>
          if P.runParkNonBlocking then some { s with run := .idle }        -- dropped: that listener is never dialled
          else some { s with run := .blocked k m }
      | none => none
    | _ => none
  | .runUnblock =>
    match s.run with
    | .blocked k m =>
      match s.slots k with
      | some sl =>
        match sl.buf with
        | none => some { s with run := .idle, slots := upd s.slots k (some { sl with buf := some m }) }
        | some _ => none
      | none => none
    | _ => none
  | .dialRacy id =>
    if P.getStreamAtomic then none else
    some { s with map := upd s.map id (some s.nSlots), slots := upd s.slots s.nSlots (some ⟨id, none, false⟩), nSlots := s.nSlots + 1,
                  dials := upd s.dials s.nDials (some ⟨id, s.nSlots, s.now + P.dialWindow, .wait⟩), nDials := s.nDials + 1 }
  | .dial id =>
    let r := getStream s id
    some { r.1 with dials := upd r.1.dials s.nDials (some ⟨id, r.2, s.now + P.dialWindow, .wait⟩), nDials := s.nDials + 1 }
  | .dialTake g =>
    match s.dials g with
    | some d =>
      match d.pc, s.slots d.slot with
      | .wait, some sl =>
        match sl.buf with
        | some m =>
          if sl.done then
            some { s with slots := upd s.slots d.slot (some { sl with buf := none }),
                          dials := upd s.dials g (some { d with pc := .panicked }) }
          else
            let target := if P.dialsReceivedAddr then m.addr else 0
            some { s with slots := upd s.slots d.slot (some { sl with buf := none, done := true }),
                          dials := upd s.dials g (some { d with pc := .dialled target }) }
        | none => none
      | _, _ => none
    | none => none
  | .dialTimeout g =>
    match s.dials g with
    | some d =>
      if d.pc = .wait ∧ d.deadline ≤ s.now then some { s with dials := upd s.dials g (some { d with pc := .timedOut }) }
      else none
    | none => none
  | .twWake t =>
    match s.tws t with
    | some w =>
      match w.pc, s.slots w.slot with
      | .wait, some sl =>
        if sl.done ∨ w.deadline ≤ s.now then some { s with tws := upd s.tws t (some { w with pc := .decided }) } else none
      | _, _ => none
    | none => none
  | .twFinish t =>
    match s.tws t with
    | some w =>
      if w.pc = .decided then
        some { s with map := upd s.map w.id none, tws := upd s.tws t (some { w with pc := .finished }) }
      else none
    | none => none
  | .tick d => some { s with now := s.now + d }

def runFrom (P : Params) : State → List Event → Option State
  | s, [] => some s
  | s, e :: es =>
    match step P s e with
    | some s' => runFrom P s' es
    | none => none

def Reachable (P : Params) (s : State) : Prop := ∃ es, runFrom P init es = some s

/-! ### the dial options of one connection -/

/-- fact: `dialGRPCConn` builds its option list in a slice of its own (`make`/literal) and only ever appends the
caller's `dialOpts...` INTO it — it never appends onto, or writes into, the caller's slice -/
structure DialParams where
  optsFresh : Bool
  /-- `DialWithOptions` (non-multiplexed path) holds no broker-wide lock while it waits for the connection info: its
  five-second wait runs concurrently with every other dial's -/
  waitsUnlocked : Bool
  /-- `clientStreams` — where a side files, or waits for, the connection info of the IDs it DIALS — is touched only by
  the dial path (`getClientStream`, `timeoutWait`) and the constructor: accepting an ID does not read or clear it -/
  acceptLeavesDialState : Bool
  /-- `dialGRPCConn` passes `grpc.FailOnNonTempDialError(true)`: a dial made with the caller's own `grpc.WithBlock()` ends
  with the connection error instead of retrying for ever (the broker dials without a deadline) -/
  dialFailsFast : Bool
  deriving DecidableEq, Repr

def DialParams.Good (D : DialParams) : Prop := D.optsFresh = true ∧ D.waitsUnlocked = true ∧ D.acceptLeavesDialState = true ∧ D.dialFailsFast = true

instance (D : DialParams) : Decidable D.Good := by unfold DialParams.Good; exact inferInstance

/-- Which id's listener the connection returned by `DialWithOptions(id, common...)` is dialled to, when a concurrent
`DialWithOptions(other, common...)` shares the caller's option slice `common` (which has spare capacity) and
`otherWroteLast` says whose per-id dialer was written last into the shared backing array.  With a slice of its own
each dial keeps its own dialer. -/
def dialReaches (D : DialParams) (id other : Nat) (otherWroteLast : Bool) : Nat :=
  if D.optsFresh then id else if otherWroteLast then other else id

/-- When `k` other unmatched dials were issued before this one (all still waiting), the time (ms after its own start) by
which this dial has returned: one window when the waits overlap, one window per earlier dial more when a broker-wide
lock serialises them. -/
def dialReturnsBy (D : DialParams) (window k : Nat) : Nat := if D.waitsUnlocked then window else window * (k + 1)

/-- The IDs a side accepts and the IDs it dials are two number spaces of their own (each broker's `NextId` counts from 1, so
they overlap).  `filed`: this side has the peer's connection info for number `n` filed (or a dial waiting for it).  Is
that still so after this side ACCEPTS its own number `m`? -/
def dialStateAfterAccept (D : DialParams) (n m : Nat) (filed : Bool) : Bool :=
  if D.acceptLeavesDialState then filed else (if n = m then false else filed)

/-- A dial of an ID whose connection info has arrived but whose listener is gone (the peer closed it mid-negotiation):
does `DialWithOptions` return?  Without `WithBlock` it returns a lazy connection at once; with the caller's `WithBlock` it
returns exactly if connection errors end the dial. -/
def gonePeerDialReturns (D : DialParams) (callerBlocks : Bool) : Bool := !callerBlocks || D.dialFailsFast

/-- fact: both streamers' `send` channel is UNBUFFERED (`make(chan *sendErr)`): handing a message to the stream's send loop
is a rendezvous with that loop -/
structure StreamerParams where
  sendUnbuffered : Bool
  deriving DecidableEq, Repr

def StreamerParams.Good (S : StreamerParams) : Prop := S.sendUnbuffered = true
instance (S : StreamerParams) : Decidable S.Good := by unfold StreamerParams.Good; exact inferInstance

/-- `Send` issued after the stream has ended (`quit` closed, the send loop gone): of the two arms of its
`select { <-quit | send <- msg }` only `quit` is ready when the hand-over needs a receiver; with a buffered channel the
hand-over is ready as well, the runtime may choose it, and the wait for the reply that follows never ends.
`true` = every such `Send` returns ("broker closed"). -/
def sendAfterEndReturns (S : StreamerParams) : Bool := S.sendUnbuffered

end GoPlugin.GrpcBroker
