import GoPlugin.Props.C17
import GoPlugin.Generated.Facts
import GoPlugin.Props.Hygiene
/-
C17 instantiated at the facts extracted from the current source (tie T-A):
the obligation `facts_good` is re-checked on every run.  It fails on a tree
that appends `os.Environ()` unfiltered (design-doc defect D8, witness
`Props.C17.inherited_controls_witness`).
-/
namespace GoPlugin.Instance.C17
open Env Props.C17

/-- The current source guards the host environment by `SkipHostEnv` and strips
go-plugin's own conditional negotiation variables (and nothing else) from it,
with a loop that examines every entry (a `range` over `os.Environ()` appending
the kept entries to a fresh slice); the entries computed from the configuration
are appended last, and `cmd.Stdin = os.Stdin` is set by `Start` itself.  Fails on a tree that filters in place
without re-examining the slot (witness `Props.C17.inplace_filter_witness`). -/
theorem facts_good : Facts.env.Good := by decide

theorem holds_controls_from_config (c : ClientCfg) (hc : CookieOk c) (cmdEnv hostEnv : List Bytes) :
    Dictated c cmdEnv (buildEnv Facts.env c cmdEnv hostEnv) :=
  controls_from_config _ facts_good c hc cmdEnv hostEnv

theorem holds_controls_unset_when_not_requested (c : ClientCfg) (hc : CookieOk c)
    (cmdEnv hostEnv : List Bytes) (k : Bytes) (hk : k ∈ conditionalKeys)
    (hreq : requested c k = false) (hcmd : effective cmdEnv k = none) :
    effective (buildEnv Facts.env c cmdEnv hostEnv) k = none :=
  controls_unset_when_not_requested _ facts_good c hc cmdEnv hostEnv k hk hreq hcmd

theorem holds_controls_independent_of_host (c : ClientCfg) (hc : CookieOk c)
    (cmdEnv hostEnv hostEnv' : List Bytes) (k : Bytes) (hk : k ∈ negotiationKeys ∨ k = c.cookieKey) :
    effective (buildEnv Facts.env c cmdEnv hostEnv) k = effective (buildEnv Facts.env c cmdEnv hostEnv') k :=
  controls_independent_of_host _ facts_good c hc cmdEnv hostEnv hostEnv' k hk

theorem holds_skip_host_env (c : ClientCfg) (hskip : c.skipHostEnv = true) (cmdEnv hostEnv : List Bytes) :
    buildEnv Facts.env c cmdEnv hostEnv = cmdEnv ++ configured c :=
  skip_host_env _ facts_good c hskip cmdEnv hostEnv

theorem holds_host_env_passed (c : ClientCfg) (hskip : c.skipHostEnv = false) (cmdEnv hostEnv : List Bytes) :
    (hostEnv.filter (fun e => !(negotiationKeys.contains (cutKey e)))).Sublist
      (buildEnv Facts.env c cmdEnv hostEnv) :=
  host_env_passed _ facts_good c hskip cmdEnv hostEnv

theorem holds_no_conditional_survives (c : ClientCfg) (hostEnv : List Bytes) :
    ∀ e ∈ hostPart Facts.env c hostEnv, cutKey e ∉ conditionalKeys :=
  no_conditional_survives _ facts_good c hostEnv

theorem holds_conditional_entries_from_config (c : ClientCfg) (cmdEnv hostEnv : List Bytes) :
    ∀ e ∈ buildEnv Facts.env c cmdEnv hostEnv, cutKey e ∈ conditionalKeys → e ∈ cmdEnv ∨ e ∈ configured c :=
  conditional_entries_from_config _ facts_good c cmdEnv hostEnv

theorem holds_stdin_is_host_stdin (c : ClientCfg) (cmdEnv hostEnv : List Bytes) (s : Stdin) :
    (launch Facts.env c cmdEnv hostEnv s).stdin = .host :=
  (stdin_is_host_stdin _ facts_good c cmdEnv hostEnv s).1

theorem holds_child_env_is_assembled (rewrite : List (String × String) → List (String × String)) (assembled : List (String × String)) :
    Hygiene.childEnv Facts.hygiene rewrite assembled = assembled :=
  Props.Hygiene.child_env_is_assembled _ (by decide) rewrite assembled

end GoPlugin.Instance.C17
