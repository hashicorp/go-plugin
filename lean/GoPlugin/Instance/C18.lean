import GoPlugin.Props.C18
import GoPlugin.Props.C20
import GoPlugin.Generated.Facts
/-
C18 instantiated at the facts extracted from the current source (tie T-A): the
obligations `facts_good_…` are re-checked on every run.  On a tree where an edge
of the shutdown call graph is missing (upstream: `GRPCServerMuxer.Close` does not
close the listener it wraps; `GRPCServer.Stop` closes the broker after the grpc
server and `GRPCBroker.Close` does not close its listeners itself) or where a `go`
statement appears that the model does not know, this file does not compile.
-/
namespace GoPlugin.Instance.C18
open Resources Props.C18

/-- Every edge the goroutine half needs is in the source, and the source has exactly the 32
`go` statement sites the model accounts for. -/
theorem facts_good_goroutines : Facts.resources.GoodGoroutines := by decide

/-- Every edge the file half needs is in the source. -/
theorem facts_good_files : Facts.resources.GoodFiles := by decide

/-- `Client.Kill`'s clean-up is registered whenever a runner was recorded: no `return` above the
`defer` other than the nothing-was-launched check, none inside the deferred func. -/
theorem facts_good_kill : Facts.resources.GoodKill := by decide

theorem holds_ledger_empty_files (L : Lib) (c : Cfg) (h : List Op) : leftFiles Facts.resources L c h = [] :=
  ledger_empty_files _ L c h facts_good_files

theorem holds_ledger_empty_goroutines (L : Lib) (c : Cfg) (h : List Op) : leftGoroutines Facts.resources L c h = [] :=
  ledger_empty_goroutines _ L c h facts_good_goroutines

theorem holds_ledger_empty (L : Lib) (c : Cfg) (h : List Op) : ledgerAfter Facts.resources L c h = [] :=
  ledger_empty _ L c h ⟨facts_good_files, facts_good_goroutines⟩

/-- whatever the plugin's state when `Kill` is called (running, or already shut down through
`ClientProtocol.Close()` and exited): no file, no socket directory, no goroutine entry remains -/
theorem holds_ledger_empty_files_any_state (L : Lib) (c : Cfg) (h : List Op) (k : AtKill) :
    leftFilesK Facts.resources L c h k = [] :=
  ledger_empty_files_any_state _ L c h k facts_good_files facts_good_kill

theorem holds_ledger_empty_goroutines_any_state (L : Lib) (c : Cfg) (h : List Op) (k : AtKill) :
    leftGoroutinesK Facts.resources L c h k = [] :=
  ledger_empty_goroutines_any_state _ L c h k facts_good_goroutines facts_good_kill

theorem holds_plugin_exits_gracefully (c : Cfg) : pluginDone Facts.resources c = true :=
  plugin_exits_gracefully _ c facts_good_files

theorem holds_kill_removes_own_dir (sharedCfg : Bool) : killRemovesOwnDir Facts.resources sharedCfg = true :=
  Props.C18.kill_removes_own_dir _ (by decide) sharedCfg

theorem holds_no_dir_without_runner : dirLeftWithoutRunner Facts.resources = false :=
  Props.C18.no_dir_without_runner _ (by decide)

/-- the host's broker send loop (go-site `brokerCliSend`) is never left blocked on the reply it owes a `Send`: whenever it
holds a request, the caller of that `Send` is still there to take the reply (C20's reply-channel protocol at the host
streamer's facts) — a `Send` that gave up waiting would leave that goroutine behind after `Kill` -/
theorem holds_send_loop_never_left_holding (s : ReplyChan.State) (h : ReplyChan.Reachable Facts.replyChanClient s)
    (i : Nat) (hw : s.worker = .holding i) : s.closed i = false ∧ s.pc i = .waiting :=
  have ⟨hOpen, hWaiting, _⟩ := Props.C20.reply_always_deliverable _ (by decide) s h i hw
  ⟨hOpen, hWaiting⟩

theorem holds_knock_loop_ends_with_listener (closedBeforeLoopRan : Bool) :
    GrpcMux.knockLoopEnds Facts.grpcKnockLoop closedBeforeLoopRan = true :=
  knock_loop_ends_with_listener _ (by decide) closedBeforeLoopRan

end GoPlugin.Instance.C18
