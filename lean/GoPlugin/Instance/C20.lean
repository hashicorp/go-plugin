import GoPlugin.Props.C20
import GoPlugin.Generated.Facts
/-
C20 at the access table extracted from the current source (`Facts.accessTable`,
`Facts.closeSites`; names `Facts.F_<Type>_<field>`, `Facts.M_<Type>_<method>`).

`policy` is the complete, explicit list of everything that is NOT justified by a
common mutex: publication rules (data, each with the happens-before argument it
stands for), setup-phase methods, and the acknowledged races (known findings).
`table_ok` re-checks by kernel evaluation (`decide +kernel` of `checkTableByField`, which is sound for
`checkTable`) over the whole table, on every run, that
every conflicting pair of rows is justified by a common mutex, by atomics, by
the constructor/setup phase or by a rule both rows conform to — except the pairs
listed in `policy.known`.  A new unlocked access, a dropped Lock, a write moved
out of its publishing section, all make the lemma fail.
-/
namespace GoPlugin.Instance.C20
open Sync Props.C20 Facts

/-- Publication rules.  Common argument for the `Client` rules: `Start` holds `c.l`
from entry to return (`defer c.l.Unlock()`), writes these fields only on the path
on which `c.address` is still nil, and `c.address` is set last and never reset; so
once some `Start` has returned success, no later `Start` writes them.  The listed
readers run only after a successful `Start` returned in their own goroutine
(`Protocol()` reads after its own `c.Start()`; `dialer`/`getGRPCMuxer` are only
reachable from `Client()` — which calls `Start` first — and from gRPC's reconnects of
a connection made there; `Kill` reads `doneCtx` only when it saw `c.address != nil`
under the lock): the mutex release/acquire orders every write before the read. -/
def rules : List Rule := [
  ⟨F_Client_protocol, .lock F_Client_l, [M_Client_Start, M_Client_reattach],
    [M_Client_Protocol, M_Client_dialer, M_Client_getGRPCMuxer]⟩,
  ⟨F_Client_address, .lock F_Client_l, [M_Client_Start, M_Client_reattach], [M_Client_dialer]⟩,
  ⟨F_Client_doneCtx, .lock F_Client_l, [M_Client_Start, M_Client_reattach], [M_Client_Kill]⟩,
  ⟨F_Client_config_TLSConfig, .lock F_Client_l, [M_Client_Start], [M_Client_dialer]⟩,
  -- read by the goroutine that the writing `Start`/`reattach` itself starts after the write (go statement);
  -- `Start` launches at most once per client (`launchAttempted`, the D10 fix), so it is assigned once
  ⟨F_Client_ctxCancel, .lock F_Client_l, [M_Client_Start, M_Client_reattach],
    [M_Client_Start_go2, M_Client_reattach_go1]⟩,
  -- written inside grpcMuxerOnce.Do, read after Do returned in the same call (sync.Once: Do returns after f completed)
  ⟨F_Client_grpcMuxer, .once F_Client_grpcMuxerOnce, [M_Client_getGRPCMuxer], [M_Client_getGRPCMuxer]⟩,
  -- the same pattern in the net/rpc server: the two stdio channels are made inside stdioOnce.Do by whichever connection
  -- comes first, and every connection reads them only after its own Do has returned
  ⟨F_RPCServer_stdoutCh, .once F_RPCServer_stdioOnce, [M_RPCServer_ServeConn], [M_RPCServer_ServeConn]⟩,
  ⟨F_RPCServer_stderrCh, .once F_RPCServer_stdioOnce, [M_RPCServer_ServeConn], [M_RPCServer_ServeConn]⟩,
  -- written by the acceptSession goroutine before `close(m.sessionErrCh)` (deferred); `session()` reads it only
  -- after receiving from sessionErrCh (channel close happens-before the receive that observes it)
  ⟨F_GRPCServerMuxer_sess, .start, [M_GRPCServerMuxer_acceptSession], [M_GRPCServerMuxer_session]⟩
]

/-- `GRPCServer.Init` runs in `Serve`/`TestPluginGRPCConn` before `go server.Serve(…)` and before the server is handed to anybody. -/
def setup : List Nat := [M_GRPCServer_Init]

/-- Acknowledged races (known_findings.jsonl, property C20). -/
def known : List Known := []      -- none: the three races found by this check were fixed (known_findings.jsonl: fixed)

def policy : Policy := ⟨rules, setup, known⟩

/-- **The whole extracted table satisfies the lockset premise**, with no
acknowledged exception (the races this check found on `GRPCServer.broker` and
`Client.negotiatedVersion` have been fixed in the source). -/
theorem table_ok : checkTable policy accessTable = true :=
  checkTableByField_sound _ _ (by decide +kernel)

/-- what `table_ok` means row by row -/
theorem table_pairs_justified (a : Access) (ha : a ∈ accessTable) (b : Access) (hb : b ∈ accessTable)
    (hc : conflict a.kind b.kind = true) :
    pairOK policy a b = true ∨ pairOK policy b a = true ∨ knownCovers policy a b = true ∨ knownCovers policy b a = true :=
  checkTable_sound policy accessTable table_ok a ha b hb hc

/-- the shared mutable fields the property is about -/
def coreFields : List Nat :=
  [F_Client_exited, F_Client_runner, F_Client_client, F_Client_processKilled, F_Client_unixSocketCfg,
   F_MuxBroker_streams, F_GRPCBroker_clientStreams, F_GRPCBroker_serverStreams, F_RPCServer_DoneCh,
   F_GRPCServerMuxer_acceptChannels, F_GRPCClientMuxer_acceptListeners]

/-- every access to a core field, from every method that can run concurrently, holds the object's mutex
(no publication rule involved) -/
theorem core_fields_lock_protected :
    coreFields.all (lockProtected (concurrentRows policy accessTable)) = true := by
  decide +kernel

/-- **No data race on a lock-protected field**: any number of goroutines each
executing any sequence of the table's rows (each row as the critical section it was
extracted from), any schedule: no reachable state has a race on such a field. -/
theorem holds_lockset_race_free (f : Nat) (hf : f ∈ coreFields) (prog : Nat → List Action)
    (hprog : TableProgram (concurrentRows policy accessTable) prog) (s : State) (h : Reachable 4294967296 prog s) :
    ¬ Race s f :=
  table_race_free _ _ f (List.all_eq_true.1 core_fields_lock_protected f hf) prog hprog s h

/-- both `NextId` counters are only ever touched through sync/atomic (or initialised by the constructor) -/
theorem nextId_atomic :
    (accessTable.all fun a => (a.field != F_MuxBroker_nextId && a.field != F_GRPCBroker_nextId) || a.atomic || a.role == 0) = true ∧
    (accessTable.any fun a => a.field == F_MuxBroker_nextId && a.method == M_MuxBroker_NextId && a.atomic) = true ∧
    (accessTable.any fun a => a.field == F_GRPCBroker_nextId && a.method == M_GRPCBroker_NextId && a.atomic) = true := by
  decide +kernel

/-- **NextId never returns the same id twice** (fewer than 2^32 calls): any number of
callers, each any number of calls, every interleaving. -/
theorem holds_nextid_distinct (c : Nat) (calls : Nat → Nat) (s : State)
    (h : Reachable 4294967296 (fun g => List.replicate (calls g) (.simple (.atomicAdd c))) s)
    (hb : (resultsOf s c).length < 4294967296) : (resultsOf s c).Nodup := by
  refine atomic_ids_distinct _ _ c (fun g a ha => ?_) s h hb
  rw [List.eq_of_mem_replicate ha]
  simp [NoPlain]

/-- close sites that are not inside a `sync.Once`, each with the reason why it runs at most once per channel object -/
def singleClosers : List (Nat × Nat) := [
  -- per-id slot object; the API allows one Accept per id at a time ("should not be called multiple times with the same ID")
  (M_MuxBroker_Accept, F_muxBrokerPending_doneCh),
  -- per-id slot object of the dialling side; one Dial per id (distinct ids); in mux mode this path is not taken
  (M_GRPCBroker_DialWithOptions, F_gRPCBrokerPending_doneCh),
  -- `defer close(s.DoneCh)` in Serve, which plugin.Serve / TestPluginGRPCConn call once per server
  (M_GRPCServer_Serve, F_GRPCServer_DoneCh),
  -- the one goroutine started by the constructor
  (M_GRPCServerMuxer_acceptSession, F_GRPCServerMuxer_sessionErrCh)
]

def closeSiteOK (cs : CloseSite) : Bool :=
  cs.once.isSome || (cs.nilGuard && !cs.locks.isEmpty) || singleClosers.contains (cs.method, cs.chan)

/-- every `close` of a channel field is inside `sync.Once.Do`, or nil-guarded under a mutex, or a documented
single closer; and all Once-guarded closes of one channel use the same Once -/
theorem close_sites_ok :
    (closeSites.all closeSiteOK) = true ∧
    (closeSites.all fun a => closeSites.all fun b =>
      a.chan != b.chan || a.once.isNone || b.once.isNone || a.once == b.once) = true ∧
    (closeSites.any fun cs => cs.chan == F_gRPCBrokerPending_doneCh && cs.once == some F_gRPCBrokerPending_once) = true ∧
    (closeSites.any fun cs => cs.chan == F_GRPCBroker_doneCh && cs.once == some F_GRPCBroker_o) = true := by
  decide

/-- **Once-guarded channels are closed at most once**: any number of goroutines calling the closing method any number of times. -/
theorem holds_once_closes_once (cs : CloseSite) (_ : cs ∈ closeSites) (o : Nat) (_ : cs.once = some o)
    (calls : Nat → Nat) (s : State)
    (h : Reachable 4294967296 (fun g => List.replicate (calls g) (.onceDo o [.closeChan cs.chan])) s) :
    ¬ DoubleClose s cs.chan := by
  refine once_closes_once _ _ cs.chan o (fun g a ha => ?_) s h
  rw [List.eq_of_mem_replicate ha]
  simp [ClosesOK]

/-- Both `Send` methods (`gRPCBrokerClientImpl` in the host, `gRPCBrokerServer` in the plugin) return —
and thereby close their reply channel — only through the receive of the reply once the request is handed
over, and both stream goroutines send exactly one reply per request they take. -/
theorem facts_good_reply_channel : Facts.replyChanClient.Good ∧ Facts.replyChanServer.Good := by decide

/-- **No send on a closed channel** in either streamer: any number of `Send`s (from `Accept`, `knock`,
knock acks), any interleaving with the stream goroutine and with `Close` of the broker. -/
theorem holds_no_send_on_closed_channel (s : ReplyChan.State)
    (h : ReplyChan.Reachable Facts.replyChanClient s ∨ ReplyChan.Reachable Facts.replyChanServer s) :
    s.panicked = false := by
  rcases h with h | h
  · exact no_send_on_closed_channel _ facts_good_reply_channel.1 s h
  · exact no_send_on_closed_channel _ facts_good_reply_channel.2 s h

/-- … and the stream goroutine can always deliver the reply it owes (it is never left blocked on `se.ch <- err`). -/
theorem holds_reply_always_deliverable (s : ReplyChan.State) (h : ReplyChan.Reachable Facts.replyChanClient s)
    (i : Nat) (hw : s.worker = .holding i) : s.closed i = false ∧ s.pc i = .waiting :=
  let ⟨hOpen, hWaiting, _⟩ := reply_always_deliverable _ facts_good_reply_channel.1 s h i hw
  ⟨hOpen, hWaiting⟩

end GoPlugin.Instance.C20
