/-
Every transition-system model defines its own `runFrom` by the same two equations: stop at the end of the
event list, fail where `step` fails.  What follows from the two equations alone is proved here once; a model
supplies `isRun : IsRun (step P) (runFrom P)` and takes its induction principle and append law from it.
The other thing the models share, functions updated at a point, is at the end of the file.
-/
namespace GoPlugin

structure IsRun {σ ε : Type} (step : σ → ε → Option σ) (run : σ → List ε → Option σ) : Prop where
  nil : ∀ s, run s [] = some s
  cons : ∀ s e es, run s (e :: es) = (step s e).bind fun s' => run s' es

namespace IsRun
variable {σ ε : Type} {step : σ → ε → Option σ} {run : σ → List ε → Option σ}

theorem append (h : IsRun step run) (s : σ) (es fs : List ε) :
    run s (es ++ fs) = (run s es).bind fun s' => run s' fs := by
  induction es generalizing s with
  | nil => simp [h.nil]
  | cons e es ih => cases hs : step s e <;> simp [h.cons, hs, ih]

theorem snoc (h : IsRun step run) {s s₁ s₂ : σ} {es : List ε} {e : ε}
    (hr : run s es = some s₁) (hs : step s₁ e = some s₂) : run s (es ++ [e]) = some s₂ := by
  simp [h.append, hr, h.cons, hs, h.nil]

theorem invariant_on (h : IsRun step run) {Inv : σ → Prop} :
    ∀ {es : List ε}, (∀ s, ∀ e ∈ es, ∀ s', Inv s → step s e = some s' → Inv s') →
      ∀ {s s' : σ}, Inv s → run s es = some s' → Inv s' := by
  intro es
  induction es with
  | nil => intro _ s s' hi hr; rw [h.nil] at hr; exact Option.some.inj hr ▸ hi
  | cons e es ih =>
    intro hstep s s' hi hr
    rw [h.cons] at hr
    obtain ⟨s₁, hs, hr⟩ := Option.bind_eq_some_iff.1 hr
    exact ih (fun s e he => hstep s e (List.mem_cons_of_mem _ he)) (hstep s e List.mem_cons_self s₁ hi hs) hr

theorem invariant (h : IsRun step run) {Inv : σ → Prop}
    (hstep : ∀ s e s', Inv s → step s e = some s' → Inv s') {es : List ε} {s s' : σ} :
    Inv s → run s es = some s' → Inv s' :=
  h.invariant_on fun s e _ => hstep s e

end IsRun

/-- A witness `∃ s, run = some s ∧ p s` with decidable `p` is settled by one evaluation of the run. -/
theorem exists_some_of_any {α : Type} {o : Option α} {p : α → Prop} [DecidablePred p]
    (h : o.any (fun a => decide (p a)) = true) : ∃ a, o = some a ∧ p a :=
  match o, h with
  | some a, h => ⟨a, rfl, of_decide_eq_true h⟩

/-! ### functions updated at a point

The finite maps of the models (tables of slots, goroutines, streams …) are functions updated by each model's own
`upd f i v := fun j => if j = i then v else f j`.  The lemmas here are stated about the `if` itself, so they apply to
every model's `upd` as it stands (it unfolds to the `if` by reduction) — as terms: a goal or hypothesis that mentions
`upd` is not syntactically an `if`, so `rw` and `simp` do not find them there. -/

theorem ite_eq_cases {α : Sort _} {c : Prop} [Decidable c] {a b w : α} (h : (if c then a else b) = w) :
    c ∧ a = w ∨ ¬c ∧ b = w := by
  split at h
  · exact .inl ⟨‹_›, h⟩
  · exact .inr ⟨‹_›, h⟩

section
variable {α : Type} {f : Nat → α} {i j : Nat} {v : α}

theorem upd_same (f : Nat → α) (i : Nat) (v : α) : (if i = i then v else f i) = v := if_pos rfl

theorem upd_ne (f : Nat → α) {i j : Nat} (v : α) (h : j ≠ i) : (if j = i then v else f j) = f j := if_neg h

theorem upd_keep {c : α} (h : f j = c) (hi : f i ≠ c) : (if j = i then v else f j) = c :=
  (if_neg fun (e : j = i) => hi (e ▸ h)).trans h

section table
variable {f : Nat → Option α} {v : Option α}

theorem upd_map_eq_some {g : α → α} {y : α} :
    (if j = i then (f i).map g else f j) = some y ↔ ∃ x, f j = some x ∧ y = if j = i then g x else x := by
  by_cases h : j = i
  · subst h; cases f j <;> simp [eq_comm]
  · simp [h]

theorem upd_map_eq_none {g : α → α} : (if j = i then (f i).map g else f j) = none ↔ f j = none := by
  by_cases h : j = i
  · subst h; simp
  · simp [h]

theorem upd_fresh_old {n : Nat} {y : α} (hf : f n = none) (hy : f j = some y) : (if j = n then v else f j) = some y :=
  (if_neg fun e => by rw [e, hf] at hy; cases hy).trans hy

/-- freshness above the counter survives a write below the (possibly larger) new counter: allocation (`i = n`,
`n' = n + 1`) and modification of an existing entry (`n' = n`) alike -/
theorem upd_fresh_above {n n' : Nat} (hf : ∀ j, n ≤ j → f j = none) (hi : i < n') (hn : n ≤ n') :
    ∀ j, n' ≤ j → (if j = i then v else f j) = none :=
  fun j hj => (if_neg (by omega)).trans (hf j (by omega))

/-- a write at an entry that does not have `p` keeps every entry that has it -/
theorem upd_keep_having {x y : α} {p : α → Prop} (hx : f i = some x) (hp : ¬ p x) (hy : f j = some y) (hpy : p y) :
    (if j = i then v else f j) = some y :=
  (if_neg fun e => hp (by cases hx.symm.trans (e ▸ hy); exact hpy)).trans hy

theorem index_lt_of_some {n k : Nat} {x : α} (hf : ∀ j, n ≤ j → f j = none) (h : f k = some x) : k < n :=
  Nat.lt_of_not_le fun hle => by rw [hf k hle] at h; cases h

/-- Most clauses of the models' invariants have the form `∀ j x, f j = some x → p j x`.  Such a clause survives a
write of an entry that has `p`; in particular (next two) a new entry that has it, and a modification that keeps it. -/
theorem forall_upd {p : Nat → α → Prop} (hf : ∀ j x, f j = some x → p j x) (hv : ∀ x, v = some x → p i x) :
    ∀ j y, (if j = i then v else f j) = some y → p j y := by
  intro j y hy
  by_cases hj : j = i
  · subst hj; exact hv y ((if_pos rfl).symm.trans hy)
  · exact hf j y ((if_neg hj).symm.trans hy)

theorem forall_upd_some {x : α} {p : Nat → α → Prop} (hf : ∀ j x, f j = some x → p j x) (hv : p i x) :
    ∀ j y, (if j = i then some x else f j) = some y → p j y :=
  forall_upd hf fun _ e => Option.some.inj e ▸ hv

theorem forall_upd_map {g : α → α} {p : Nat → α → Prop} (hf : ∀ j x, f j = some x → p j x)
    (hg : ∀ x, f i = some x → p i x → p i (g x)) : ∀ j y, (if j = i then (f i).map g else f j) = some y → p j y :=
  forall_upd hf fun y e => by
    obtain ⟨x, hx, rfl⟩ := Option.map_eq_some_iff.1 e
    exact hg x hx (hf i x hx)


/-- every entry of the table is due by `t` (timers: a deadline is set once, `now + window`, and the clock only advances) -/
def Due (deadline : α → Nat) (f : Nat → Option α) (t : Nat) : Prop := ∀ i x, f i = some x → deadline x ≤ t

theorem Due.mono {dl : α → Nat} {t t' : Nat} (h : Due dl f t) (ht : t ≤ t') : Due dl f t' :=
  fun i x hx => Nat.le_trans (h i x hx) ht

theorem Due.upd {dl : α → Nat} {t : Nat} (h : Due dl f t) (i : Nat) {x : α} (hx : dl x ≤ t) :
    Due dl (fun j => if j = i then some x else f j) t :=
  forall_upd_some h hx

theorem Due.upd_map {dl : α → Nat} {t : Nat} (h : Due dl f t) (i : Nat) {g : α → α} (hg : ∀ x, dl (g x) = dl x) :
    Due dl (fun j => if j = i then (f i).map g else f j) t :=
  forall_upd_map h fun x _ hx => hg x ▸ hx

end table
end

end GoPlugin
