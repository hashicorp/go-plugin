import GoPlugin.Props.C05
import GoPlugin.Props.C04
import GoPlugin.Props.C18
import GoPlugin.Generated.Facts
import GoPlugin.Props.Hygiene
/- C05 at the facts extracted from the current source. -/
namespace GoPlugin.Instance.C05
open Props.C05

theorem handshake_facts_good : Facts.handshake.Good := by decide
theorem lifecycle_facts_good : Facts.lifecycle.Good := by decide

theorem holds_start_ok_or_killed (c : Handshake.HostCfg) (e : Handshake.Ext) (i : Handshake.Input) :
    (∃ a p v, Handshake.start Facts.handshake c e i = .ok a p v) ∨ (∃ k, Handshake.start Facts.handshake c e i = .err k true) :=
  start_ok_or_killed _ handshake_facts_good c e i

theorem holds_kill_after_failed_start (a b : Bool) :
    ∃ s, Lifecycle.runFrom Facts.lifecycle (Lifecycle.init .runnerFunc false) [.start false, .killA a b, .killB] = some s ∧
      s.dirsLive = 0 ∧ s.runner = none ∧ s.kills = 2 ∧ s.launches = 1 ∧ s.cached = none :=
  kill_after_failed_start _ lifecycle_facts_good a b

theorem cmdrunner_facts_good : Facts.cmdRunner.Good := by decide

theorem holds_cmd_kill_reaches (c : CmdRunner.CmdCfg) : CmdRunner.killReaches Facts.cmdRunner c = true :=
  cmd_kill_reaches _ cmdrunner_facts_good c

/-- a custom runner whose own `Start` failed after it created the process: the later Kill reaches it (fact of C04's model) -/
theorem holds_failed_runner_start_is_killed :
    (Kill.killStartFailed Facts.kill).returns = true ∧ (Kill.killStartFailed Facts.kill).procDead = true :=
  have ⟨hReturns, _, hDead, _⟩ := Props.C04.failed_runner_start_is_killed _ (by decide)
  ⟨hReturns, hDead⟩

/-- a custom-runner launch that fails before there is a runner leaves no socket directory (C18's fact) -/
theorem holds_no_dir_without_runner : Resources.dirLeftWithoutRunner Facts.resources = false :=
  Props.C18.no_dir_without_runner _ (by decide)

theorem holds_start_error_means_not_launched : Hygiene.launchedDespiteStartError Facts.hygiene = false :=
  Props.Hygiene.start_error_means_not_launched _ (by decide)

end GoPlugin.Instance.C05
