import GoPlugin.Props.C09
import GoPlugin.Props.C06
import GoPlugin.Props.C08
import GoPlugin.Generated.Facts
import GoPlugin.Props.Hygiene
/- C09 at the facts extracted from the current source. -/
namespace GoPlugin.Instance.C09
open MuxBroker Props.C09

/-- The current source: `default` arm on the expiry receive, unconditional drain, dropped streams closed, `Run` goes on
after a failed header read, slot channels of capacity one. -/
theorem facts_good : Facts.muxBroker.Good := by decide

theorem holds_no_lock_wedge (s : State) (h : Reachable Facts.muxBroker s) : ¬ LockWedged s :=
  no_lock_wedge _ facts_good s h

theorem holds_no_stream_leaks (s : State) (h : Reachable Facts.muxBroker s) (sid : Nat) : ¬ Leaked s sid :=
  no_stream_leaks _ facts_good s h sid

/-- **about five seconds**: at the extracted windows, a waiting `Accept` is due at most 5000 ms from now, a parked
stream's `timeoutWait` likewise, and a due timer's step is enabled -/
theorem holds_due_within_five_seconds (s : State) (h : Reachable Facts.muxBroker s) :
    (∀ g (a : Acc), s.accs g = some a → a.pc = .wait →
        a.deadline ≤ s.now + 5000 ∧ (a.deadline ≤ s.now → (step Facts.muxBroker s (.accTimeout g)).isSome)) ∧
    (∀ t (w : Tw), s.tws t = some w → w.pc = .wait →
        w.deadline ≤ s.now + 5000 ∧ (w.deadline ≤ s.now → (step Facts.muxBroker s (.twTimer t)).isSome)) := by
  have hw : Facts.muxBroker.acceptWindow = 5000 ∧ Facts.muxBroker.expiryWindow = 5000 := by decide
  have := due_within_window _ facts_good s h
  rw [hw.1, hw.2] at this
  exact this

/-- the multiplexed gRPC broker's part of "no history can block the broker": at the extracted facts (parked knocks expire
before their dialler gives up), from every reachable quiescent state — after any history of dials that gave up and accepts
issued later — no token is left over and the next establishment can begin -/
theorem holds_mux_dial_can_always_begin (r : GrpcMux.Role) (s : GrpcMux.State) (h : GrpcMux.Reachable Facts.grpcMux r s)
    (hi : s.hs = .idle) (hq : s.q = []) (id : Nat) :
    (GrpcMux.step Facts.grpcMux s (.dialBegin id)).isSome ∧ s.tok = none ∧ s.waitCount = 0 :=
  Props.C08.dial_can_always_begin _ (by decide) r s h hi hq id

theorem holds_gone_peer_dial_returns (callerBlocks : Bool) : GrpcBroker.gonePeerDialReturns Facts.grpcDial callerBlocks = true :=
  Props.C09.gone_peer_dial_returns _ (by decide) callerBlocks

theorem holds_send_after_stream_end_returns : GrpcBroker.sendAfterEndReturns Facts.grpcStreamer = true :=
  Props.C09.send_after_stream_end_returns _ (by decide)

/-- net/rpc broker: an `Accept` that timed out has released the mutex (C06's fact about the timer arm) -/
theorem holds_accept_timeout_releases_lock (nothingParked : Bool) : MuxBroker.timeoutReleasesLock Facts.muxAccept nothingParked = true :=
  (Props.C06.accept_bookkeeping _ (by decide) nothingParked 0 0).1

theorem holds_closed_listener_releases_loop (taken closed : Bool) (h : taken = true ∨ closed = true) :
    GrpcMux.loopPastHandoff Facts.grpcMuxHandoff taken closed = true :=
  Props.C09.closed_listener_releases_loop _ (by decide) taken closed h

theorem holds_next_listener_gets_own_stream (tokenPending : Bool) (closed next : Nat) :
    GrpcMux.nextAccepts Facts.grpcMuxClientClose tokenPending closed next = some (GrpcMux.Tag.brokered next) :=
  Props.C09.next_listener_gets_own_stream _ (by decide) tokenPending closed next

theorem holds_one_slot_per_id (together : Bool) : Hygiene.slotsAfterRendezvous Facts.hygiene together = 1 :=
  Props.Hygiene.one_slot_per_id _ (by decide) together

theorem holds_muxer_lock_free_after_knocks (knocks : Nat) : GrpcMux.muxerLockFree Facts.grpcMuxClientClose knocks = true :=
  Props.C09.muxer_lock_free_after_knocks _ (by decide) knocks

end GoPlugin.Instance.C09
