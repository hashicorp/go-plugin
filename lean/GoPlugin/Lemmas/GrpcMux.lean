import GoPlugin.Model.GrpcMux
import GoPlugin.Lemmas.Run
/-
The safety invariant of the multiplexed broker in three groups, each a predicate of the fields it reads (so an
event that writes none of them preserves it by the hypothesis itself):
`Reg` (registration), `Pipe` (what of the one-place pipeline is occupied), `Logs` (the monotone records).
-/
namespace GoPlugin.GrpcMux

theorem isRun (P : Params) : IsRun (step P) (runFrom P) :=
  ⟨fun _ => rfl, fun s e es => by simp only [runFrom]; cases step P s e <;> rfl⟩

theorem reachable_induction {P : Params} {r : Role} {Inv : State → Prop} (h0 : Inv (init r))
    (hstep : ∀ s e s', Inv s → step P s e = some s' → Inv s') : ∀ s, Reachable P r s → Inv s :=
  fun _ ⟨_, hes⟩ => (isRun P).invariant hstep h0 hes

theorem Params.Good.registerFirst {P : Params} (h : P.Good) : P.registerFirst = true := h.1
theorem Params.Good.sequential {P : Params} (h : P.Good) : P.sequential = true := h.2.2.1
theorem Params.Good.handoffBlocks {P : Params} (h : P.Good) : P.handoffBlocks = true := h.2.2.2.1
theorem Params.Good.knocksExpire {P : Params} (h : P.Good) : P.knocksExpire = true := h.2.2.2.2
theorem KnockLoopParams.Good.usesAcceptSlot {K : KnockLoopParams} (h : K.Good) : K.usesAcceptSlot = true := h.1
theorem KnockLoopParams.Good.closeRemovesOwnEntryOnly {K : KnockLoopParams} (h : K.Good) :
    K.closeRemovesOwnEntryOnly = true := h.2
theorem ClientCloseParams.Good.discardsAnnounced {C : ClientCloseParams} (h : C.Good) : C.discardsAnnounced = true := h.1
theorem ClientCloseParams.Good.unblockNeverBlocks {C : ClientCloseParams} (h : C.Good) : C.unblockNeverBlocks = true := h.2

/-- the ids whose listener has to be registered: the knock loop runs, `Accept` is between its two statements, the knock
has been received, the token has been handed over -/
structure RegOk (reg kStarted : Nat → Bool) (apc : Nat → APc) (hs : Hs) (tok : Option Nat) : Prop where
  loop : ∀ id, kStarted id = true → reg id = true
  half : ∀ id, apc id = .half → reg id = true
  kGot : ∀ id, hs = .kGot id → reg id = true
  token : ∀ id, tok = some id → reg id = true

def Reg (s : State) : Prop := RegOk s.reg s.kStarted s.apc s.hs s.tok

theorem Reg.set_hs {s : State} (h : Reg s) {x : Hs} (hx : ∀ id, x = .kGot id → s.reg id = true) :
    Reg { s with hs := x } :=
  { h with kGot := hx }

theorem Reg.set_tok {s : State} (h : Reg s) {o : Option Nat} (ho : ∀ id, o = some id → s.reg id = true) :
    Reg { s with tok := o } :=
  { h with token := ho }

theorem Reg.set_apc {s : State} (h : Reg s) {id : Nat} {v : APc} (hv : v = .half → s.reg id = true) :
    Reg { s with apc := updA s.apc id v } :=
  { h with
    half := fun j ha => by
      rcases ite_eq_cases ha with ⟨rfl, e⟩ | ⟨_, e⟩
      · exact hv e
      · exact h.half j e }

theorem Reg.set_kStarted {s : State} (h : Reg s) {id : Nat} (hid : s.reg id = true) :
    Reg { s with kStarted := updB s.kStarted id true } :=
  { h with
    loop := fun j hk => by
      rcases ite_eq_cases hk with ⟨rfl, _⟩ | ⟨_, e⟩
      · exact hid
      · exact h.loop j e }

theorem Reg.register {s : State} (h : Reg s) (id : Nat) : Reg { s with reg := updB s.reg id true } :=
  have mono : ∀ {j}, s.reg j = true → updB s.reg id true j = true := fun hj => by
    unfold updB; split
    · rfl
    · exact hj
  ⟨fun j hj => mono (h.loop j hj), fun j hj => mono (h.half j hj), fun j hj => mono (h.kGot j hj),
    fun j hj => mono (h.token j hj)⟩

/-- `Tokens … none`: no token anywhere.  `Tokens … (some id)`: exactly one token, the one for `id`, in the channel of the
accepting side's role — `tok` on the plugin, `id`'s `waitTok` flag (counted in `waitCount`) on the host. -/
def Tokens (role : Role) (tok : Option Nat) (waitTok : Nat → Bool) (waitCount : Nat) : Option Nat → Prop
  | none => tok = none ∧ (∀ j, waitTok j = false) ∧ waitCount = 0
  | some id =>
    match role with
    | .server => tok = some id ∧ (∀ j, waitTok j = false) ∧ waitCount = 0
    | .client => tok = none ∧ (∀ j, waitTok j = true ↔ j = id) ∧ waitCount = 1

/-- The grouping of the handshake's counters into arms is the invariant: up to the token hand-over nothing is held and
nothing queued, from the hand-over until the dialler opens the stream the token for that id is held, the error counters
do not occur, and only `idle` admits a queue — main streams with nothing held, or the one announced stream with its token. -/
def PipeOk (role : Role) (tok : Option Nat) (waitTok : Nat → Bool) (waitCount : Nat) (q : List Tag) : Hs → Prop
  | .idle => (Tokens role tok waitTok waitCount none ∧ (∀ t ∈ q, t = .main) ∧ (role = .client → q = [])) ∨
      ∃ id, Tokens role tok waitTok waitCount (some id) ∧ q = [.brokered id]
  | .knockSent _ | .parked _ | .kGot _ => Tokens role tok waitTok waitCount none ∧ q = []
  | .tokenPut id | .ackSent id | .acked id => Tokens role tok waitTok waitCount (some id) ∧ q = []
  | .ackErr _ | .ackErrSent _ => False

def Pipe (s : State) : Prop := PipeOk s.role s.tok s.waitTok s.waitCount s.q s.hs

theorem PipeOk.quiet {role : Role} {tok : Option Nat} {waitTok : Nat → Bool} {waitCount : Nat} {q : List Tag}
    (held : Tokens role tok waitTok waitCount none) (main : ∀ t ∈ q, t = .main) (client : role = .client → q = []) :
    PipeOk role tok waitTok waitCount q .idle :=
  .inl ⟨held, main, client⟩

theorem Pipe.at {s : State} (h : Pipe s) {x : Hs} (hh : s.hs = x) : PipeOk s.role s.tok s.waitTok s.waitCount s.q x :=
  hh ▸ h

theorem Pipe.of_at {s : State} {x : Hs} (hh : s.hs = x) (h : PipeOk s.role s.tok s.waitTok s.waitCount s.q x) : Pipe s := by
  unfold Pipe; rw [hh]; exact h

theorem Pipe.of_cons {s : State} {t : Tag} {q' : List Tag} (h : Pipe s) (hq : s.q = t :: q') :
    s.hs = .idle ∧ ((Tokens s.role s.tok s.waitTok s.waitCount none ∧ s.role = .server ∧ ∀ x ∈ t :: q', x = .main) ∨
      ∃ id, Tokens s.role s.tok s.waitTok s.waitCount (some id) ∧ t = .brokered id ∧ q' = []) := by
  unfold Pipe at h
  -- only `idle` admits a non-empty queue: in every other phase `PipeOk` says `q = []` (or `False`), which `hq` refutes
  cases hh : s.hs <;> rw [hh, hq] at h <;> simp only [PipeOk, reduceCtorEq, and_false] at h
  refine ⟨rfl, h.imp (fun ⟨h1, h2, h3⟩ => ⟨h1, ?_, h2⟩) (fun ⟨id, h1, h2⟩ => ⟨id, h1, by simpa using h2⟩)⟩
  cases hr : s.role with
  | server => rfl
  | client => cases h3 hr

theorem Pipe.quiet {s : State} (h : Pipe s) (hi : s.hs = .idle) (hq : s.q = []) :
    Tokens s.role s.tok s.waitTok s.waitCount none := by
  unfold Pipe at h; rw [hi, hq] at h
  rcases h with h | ⟨_, _, h⟩
  · exact h.1
  · cases h

def GoodDelivery : Tag × Dest → Prop
  | (.main, d) => d = .default
  | (.brokered id, d) => d = .listener id

structure LogsOk (delivered : List (Tag × Dest)) (mainDead : Bool) (results : List (Nat × Bool)) (stale : Nat → Bool) :
    Prop where
  delivered_ok : ∀ x ∈ delivered, GoodDelivery x
  alive : mainDead = false
  results_ok : ∀ x ∈ results, x.2 = true
  no_stale : ∀ id, stale id = false

def Logs (s : State) : Prop := LogsOk s.delivered s.mainDead s.results s.stale

theorem noMain_tail (t : Tag) (q : List Tag) (h : noMain (t :: q) = true) : noMain q = true := by
  simp [noMain] at h ⊢; exact h.2

theorem forall_mem_concat {α : Type} {p : α → Prop} {l : List α} {a : α} (h : ∀ x ∈ l, p x) (ha : p a) :
    ∀ x ∈ l ++ [a], p x :=
  List.forall_mem_append.2 ⟨h, List.forall_mem_singleton.2 ha⟩

structure Safe (s : State) : Prop where
  reg : Reg s
  pipe : Pipe s
  logs : Logs s

theorem safe_init (r : Role) : Safe (init r) := by
  refine ⟨?_, ?_, ?_⟩
  · exact ⟨nofun, nofun, nofun, nofun⟩
  · exact .inl ⟨⟨rfl, fun _ => rfl, rfl⟩, by simp [init], fun _ => rfl⟩
  · constructor <;> simp [init]

/- The branches of `step` (`fun_cases`) that return a state: 1 `acceptBegin`; 3 / 4 `acceptFirst` registering the
listener / starting the knock loop; 6 / 7 `acceptSecond` starting the loop / registering; 9 `dialBegin`; 11 `runKnock`;
13 `kRecv`; 16 `kAcceptKnock` on the server, 19 on the client, 20 on the client without a listener; 22 / 23 `kAck` of a
token / of an error; 25 / 26 `dialAck` likewise; 28 `dialOpen`; 30 `mainStream`; 33 `xAccept` to the token's listener,
34 with no listener registered (fatal), 35 with no token (main listener); 38 `xAcceptUnparked`; 42 `lAccept`;
45 `dialGiveUp` and 46 `kRecvStale` are left to `stepStale`.  `case` names the LAST hypotheses of a branch. -/

/-- **Every event preserves the safety invariant** (listener registered before the knock loop,
sequential establishments, blocking hand-off, expiring knocks). -/
theorem safe_step (P : Params) (hP : P.Good) (s s' : State) (e : Event) (h : Safe s) (hs : step P s e = some s') :
    Safe s' := by
  obtain ⟨hreg, hpipe, hlogs⟩ := h
  revert hs
  fun_cases step P s e <;> intro hs
  case case45 =>
    -- `dialGiveUp`: the parked knock expires with its dialler
    simp only [stepStale, hP.knocksExpire, if_true] at hs
    split at hs
    · next id hh =>
      cases hs
      obtain ⟨hNone, hq⟩ := hpipe.at hh
      exact ⟨hreg.set_hs nofun, PipeOk.quiet (held := hNone) (main := by rw [hq]; nofun) (client := fun _ => hq), hlogs⟩
    · cases hs
  case case46 id =>
    -- `kRecvStale`: there is no stale knock
    simp [stepStale, hlogs.no_stale id] at hs
  all_goals cases hs
  case case1 => exact ⟨hreg.set_apc nofun, hpipe, hlogs⟩
  case case3 id _ _ => exact ⟨(hreg.register id).set_apc fun _ => if_pos rfl, hpipe, hlogs⟩
  case case4 hf | case7 hf => exact absurd hP.registerFirst hf
  case case6 id ha _ => exact ⟨(hreg.set_kStarted (hreg.half _ ha)).set_apc nofun, hpipe, hlogs⟩
  case case9 id hg =>
    obtain ⟨hi, -, hquiet⟩ := hg
    obtain ⟨hq, -, -⟩ := hquiet hP.sequential
    exact ⟨hreg.set_hs nofun, ⟨hpipe.quiet hi hq, hq⟩, hlogs⟩
  -- the counter moves within one arm of `PipeOk`, so the old clause is the new one up to unfolding (hence `(… :)`)
  case case11 hh | case22 hh | case25 hh => exact ⟨hreg.set_hs nofun, (hpipe.at hh :), hlogs⟩
  case case13 id hh hk => exact ⟨hreg.set_hs fun _ e => by cases e; exact hreg.loop _ hk, (hpipe.at hh :), hlogs⟩
  case case16 id hh hr _ =>
    obtain ⟨⟨-, hClientEmpty⟩, hq⟩ := hpipe.at hh
    have hreg' := hreg.set_tok (o := some id) fun _ e => by cases e; exact hreg.kGot _ hh
    refine ⟨hreg'.set_hs (x := .tokenPut id) nofun, ?_, hlogs⟩
    show PipeOk s.role _ _ _ _ _
    -- `Tokens … (some id)` on the plugin: the token in `tok`, the host's flags and count empty as before
    rw [hr]; exact ⟨⟨rfl, hClientEmpty⟩, hq⟩
  case case19 id hh hr _ _ =>
    obtain ⟨⟨ht, hw, hc⟩, hq⟩ := hpipe.at hh
    refine ⟨hreg.set_hs nofun, ?_, hlogs⟩
    show PipeOk s.role _ _ _ _ _
    -- `Tokens … (some id)` on the host: `tok` untouched, `id`'s flag the only one (`?_`), one token counted
    rw [hr]; refine ⟨⟨ht, fun j => ?_, by rw [hc]⟩, hq⟩
    show updB s.waitTok id true j = true ↔ _
    unfold updB; split <;> simp [*]
  case case20 id hh _ hn => exact absurd (hreg.kGot _ hh) hn
  case case23 hh | case26 hh => exact (hpipe.at hh).elim
  case case28 id hh =>
    have hp := hpipe.at hh
    exact ⟨hreg.set_hs nofun, .inr ⟨_, hp.1, by rw [hp.2]; rfl⟩,
      { hlogs with results_ok := forall_mem_concat hlogs.results_ok rfl }⟩
  case case30 hg =>
    obtain ⟨hr, hi, ht⟩ := hg
    refine ⟨hreg, Pipe.of_at hi ?_, hlogs⟩
    rcases hpipe.at hi with ⟨h1, h2, _⟩ | ⟨id, h1, _⟩
    · exact PipeOk.quiet (held := h1) (main := forall_mem_concat h2 rfl) (client := fun hc => by rw [hr] at hc; cases hc)
    · rw [hr] at h1; rw [h1.1] at ht; cases ht
  case case33 t q' hq hr _ id ht _ =>
    obtain ⟨hi, ⟨hn, -⟩ | ⟨id', hn, rfl, rfl⟩⟩ := hpipe.of_cons hq
    · rw [hn.1] at ht; cases ht
    · rw [hr] at hn
      obtain rfl : id' = id := Option.some.inj (hn.1.symm.trans ht)
      -- the token is taken from `tok`; the host's flags and count were empty and stay so
      exact ⟨hreg.set_tok nofun,
        Pipe.of_at hi (PipeOk.quiet (held := ⟨rfl, hn.2⟩) (main := nofun) (client := fun _ => rfl)),
        { hlogs with delivered_ok := forall_mem_concat hlogs.delivered_ok rfl }⟩
  case case34 ht hg => exact absurd (hreg.token _ ht) hg
  case case35 t q' hq hr _ ht =>
    obtain ⟨hi, ⟨hn, -, hm⟩ | ⟨id', hn, -⟩⟩ := hpipe.of_cons hq
    · obtain rfl := hm _ (List.mem_cons_self ..)
      exact ⟨hreg, Pipe.of_at hi (PipeOk.quiet (held := hn) (main := fun x hx => hm x (List.mem_cons_of_mem _ hx))
          (client := fun hc => by rw [hr] at hc; cases hc)),
        { hlogs with delivered_ok := forall_mem_concat hlogs.delivered_ok rfl }⟩
    · rw [hr] at hn; rw [hn.1] at ht; cases ht
  case case38 hb _ _ _ => rw [hP.handoffBlocks, Bool.or_true] at hb; exact absurd rfl hb
  case case42 id t q' hq hr hg =>
    obtain ⟨-, hw⟩ := hg
    obtain ⟨hi, ⟨⟨-, hNoWaitTok, -⟩, -⟩ | ⟨id', hn, rfl, rfl⟩⟩ := hpipe.of_cons hq
    · rw [hNoWaitTok] at hw; cases hw
    · rw [hr] at hn
      obtain ⟨ht, hu, hc⟩ := hn
      obtain rfl := (hu _).1 hw
      -- `Tokens … none` on the host: `tok` untouched, no flag left (`?_`), the count back to 0
      refine ⟨hreg,
        Pipe.of_at hi (PipeOk.quiet (held := ⟨ht, fun j => ?_, by rw [hc]⟩) (main := nofun) (client := fun _ => rfl)),
        { hlogs with delivered_ok := forall_mem_concat hlogs.delivered_ok rfl }⟩
      show updB s.waitTok _ false j = false
      unfold updB; split
      · rfl
      · exact Bool.eq_false_iff.2 fun h => ‹¬ j = _› ((hu j).1 h)

theorem safe_of_reachable (P : Params) (hP : P.Good) (r : Role) (s : State) (h : Reachable P r s) : Safe s :=
  reachable_induction (Inv := Safe) (safe_init r) (fun s e s' hi hs => safe_step P hP s s' e hi hs) s h

end GoPlugin.GrpcMux
