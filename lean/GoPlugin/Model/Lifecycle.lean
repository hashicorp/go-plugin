/-
One `plugin.Client` object and its environment at the granularity of its public
operations (client.go: Start, Client, Protocol, ReattachConfig, ID, Exited, Kill).

`Start` holds `c.l` for its whole body and the accessors are single lock
sections, so each is one atomic event; `Kill` is split into its two parts
(everything up to the forced kill / the deferred cleanup) so that other
operations can be scheduled in between.  A concurrent mix of calls is an
arbitrary interleaving of these events; a sequential program is one particular
interleaving.

The environment chooses, per launch, whether the launched process completes the
handshake (`hsOk`), and per operation whether the plugin process is still alive.
-/
namespace GoPlugin.Lifecycle

inductive Launch
  | cmd                       -- ClientConfig.Cmd
  | runnerFunc                -- ClientConfig.RunnerFunc
  | reattach (test : Bool)    -- ClientConfig.Reattach (test = ReattachConfig.Test)
  deriving DecidableEq, Repr

/-- structural facts of the source -/
structure Params where
  /-- `Start` refuses to launch again once a launch has been attempted -/
  retryGuard : Bool
  /-- `Start` returns the cached address before doing anything else -/
  addrShortCircuit : Bool
  /-- `Client()` returns the cached protocol client when there is one -/
  clientCached : Bool
  /-- `Kill`'s deferred function removes the runner's socket directory -/
  killRemovesDir : Bool
  /-- test-mode reattach does not record the runner (so `Kill` cannot kill the server) -/
  testModeNoRunner : Bool
  /-- `ReattachConfig()` of a client that was itself created by reattaching hands back the
      configuration it was given (so in particular its `Test` flag), not a rebuilt one -/
  reattachConfigKeepsTest : Bool
  /-- `Start` holds `c.l` from its first statement to its return (`c.l.Lock(); defer c.l.Unlock()`, no other lock
  operation on `c.l` in its body), so its "already started / already attempted" checks and the launch are one atomic step -/
  startAtomic : Bool
  deriving DecidableEq, Repr

def Params.Good (P : Params) : Prop :=
  P.retryGuard = true ∧ P.addrShortCircuit = true ∧ P.clientCached = true ∧ P.killRemovesDir = true ∧
  P.testModeNoRunner = true ∧ P.reattachConfigKeepsTest = true ∧ P.startAtomic = true

instance (P : Params) : Decidable P.Good := by unfold Params.Good; exact inferInstance

inductive Out
  | okAddr (a : Nat)
  | okClient (c : Nat)
  | err
  | unit
  deriving DecidableEq, Repr

structure State where
  launch : Launch
  /-- `c.address != nil` and which address (instance id) it is -/
  addr : Option Nat
  /-- `c.runner`: the process it can force-kill -/
  runner : Option Nat
  /-- `c.client`: identity of the cached protocol client -/
  cached : Option Nat
  nextClient : Nat
  /-- a launch has been attempted (set before the runner is created) -/
  attempted : Bool
  /-- `exec.Cmd`'s pipes are taken (a second `NewCmdRunner` on the same Cmd fails) -/
  cmdUsed : Bool
  /-- number of `RunnerFunc` invocations / `cmd.Start` calls -/
  launches : Nat
  /-- processes by id: alive? -/
  procs : Nat → Option Bool
  nProcs : Nat
  /-- live temporary socket directories -/
  dirsLive : Nat
  dirsCreated : Nat
  /-- `c.unixSocketCfg.socketDir` is set -/
  curDir : Bool
  /-- number of `runner.Kill` calls -/
  kills : Nat
  /-- a `Kill` is between its two parts; snapshot of (runner, socket dir set) -/
  pendingKills : List (Option Nat × Bool)
  /-- reattach target: the already-running instance (process id), if the config reattaches -/
  target : Option Nat
  /-- history of results returned to callers (ghost) -/
  outs : List Out

def init (l : Launch) (targetAlive : Bool) : State :=
  match l with
  | .reattach _ =>
    ⟨l, none, none, none, 0, false, false, 0, fun i => if i = 0 then some targetAlive else none, 1, 0, 0, false, 0, [], some 0, []⟩
  | _ => ⟨l, none, none, none, 0, false, false, 0, fun _ => none, 0, 0, 0, false, 0, [], none, []⟩

def updP (f : Nat → Option Bool) (i : Nat) (v : Option Bool) : Nat → Option Bool := fun j => if j = i then v else f j

inductive Event
  /-- `Start()`; `hsOk` = the launched process completes the handshake -/
  | start (hsOk : Bool)
  /-- a `Start()` that overlaps another one and made its "already started?" checks BEFORE the other one launched
  (possible only when `Start` lets go of `c.l` between the checks and the launch) -/
  | startRaced (hsOk : Bool)
  /-- `Client()`; `connOk` = creating the protocol client succeeds (plugin reachable) -/
  | client (hsOk connOk : Bool)
  /-- `Protocol()` -/
  | protocol (hsOk : Bool)
  | reattachConfig
  | id
  | exited
  /-- first part of `Kill` (snapshot, close, grace, force) -/
  | killA (hsOk connOk : Bool)
  /-- deferred part of `Kill` -/
  | killB
  /-- the plugin process dies by itself -/
  | procDies (p : Nat)
  deriving DecidableEq, Repr

/-- body of `Start` -/
def doStart (P : Params) (s : State) (hsOk : Bool) : State × Out :=
  match (if P.addrShortCircuit then s.addr else none) with
  | some a => (s, .okAddr a)
  | none =>
    match s.launch with
    | .reattach test =>
      match s.target with
      | some t =>
        if s.procs t = some true then
          ({ s with addr := some t, runner := if test && P.testModeNoRunner then s.runner else some t }, .okAddr t)
        else (s, .err)                    -- ErrProcessNotFound
      | none => (s, .err)
    | .cmd =>
      if P.retryGuard && s.attempted then (s, .err) else
      if s.cmdUsed then ({ s with attempted := true }, .err)     -- cmd.StdoutPipe: "Stdout already set"
      else
        let p := s.nProcs
        let s1 := { s with attempted := true, cmdUsed := true, launches := s.launches + 1, runner := some p,
                           procs := updP s.procs p (some true), nProcs := s.nProcs + 1 }
        if hsOk then ({ s1 with addr := some p }, .okAddr p)
        else ({ s1 with procs := updP s1.procs p (some false), kills := s1.kills + 1 }, .err)   -- deferred runner.Kill
    | .runnerFunc =>
      if P.retryGuard && s.attempted then (s, .err) else
        let p := s.nProcs
        let s1 := { s with attempted := true, launches := s.launches + 1, runner := some p,
                           dirsLive := s.dirsLive + 1, dirsCreated := s.dirsCreated + 1, curDir := true,
                           procs := updP s.procs p (some true), nProcs := s.nProcs + 1 }
        if hsOk then ({ s1 with addr := some p }, .okAddr p)
        else ({ s1 with procs := updP s1.procs p (some false), kills := s1.kills + 1 }, .err)

/-- body of `Client()` after a successful `Start` -/
def doClient (P : Params) (s : State) (connOk : Bool) : State × Out :=
  match (if P.clientCached then s.cached else none) with
  | some c => (s, .okClient c)
  | none =>
    if connOk then ({ s with cached := some s.nextClient, nextClient := s.nextClient + 1 }, .okClient s.nextClient)
    else ({ s with cached := none }, .err)

def emit (r : State × Out) : State := { r.1 with outs := r.1.outs ++ [r.2] }

def step (P : Params) (s : State) : Event → Option State
  | .start hsOk => some (emit (doStart P s hsOk))
  | .startRaced hsOk =>
    if P.startAtomic then none
    else some (emit (doStart P { s with addr := none, attempted := false } hsOk))   -- it acts on what it saw: nothing started yet
  | .client hsOk connOk =>
    match doStart P s hsOk with
    | (s1, .okAddr _) => some (emit (doClient P s1 connOk))
    | (s1, _) => some (emit (s1, .err))
  | .protocol hsOk =>
    match doStart P s hsOk with
    | (s1, .okAddr _) => some (emit (s1, .unit))
    | (s1, _) => some (emit (s1, .err))
  | .reattachConfig => some (emit (s, .unit))
  | .id => some (emit (s, .unit))
  | .exited => some (emit (s, .unit))
  | .killA hsOk connOk =>
    match s.runner with
    | none => some (emit (s, .unit))                -- nothing to kill
    | some p =>
      -- with an address: Client() + Close (the client may get created here); then graceful wait or force kill.
      let s1 := match s.addr with
        | some _ => (doClient P (doStart P s hsOk).1 connOk).1
        | none => s
      -- whatever the path, when this part ends the process is dead (it exited or was force-killed)
      some { s1 with procs := updP s1.procs p (some false), kills := s1.kills + 1,
                     pendingKills := s1.pendingKills ++ [(some p, s.curDir)] }
  | .killB =>
    match s.pendingKills with
    | (_, hadDir) :: rest =>
      let d := if hadDir && P.killRemovesDir then s.dirsLive - 1 else s.dirsLive
      some (emit ({ s with pendingKills := rest, runner := none, dirsLive := d }, .unit))
    | [] => none
  | .procDies p =>
    match s.procs p with
    | some true => some { s with procs := updP s.procs p (some false) }
    | _ => none

/-! ### Reattaching from a client's `ReattachConfig()` (generations of clients on one plugin)

`ReattachConfig()` is `nil` before the client has an address.  For a client that launched its plugin
it is a fresh `{Protocol, Addr, Pid}` (never test mode); for a client that was itself created by
reattaching it is the configuration it was given — or, in the other shape of the code, a rebuilt one
that carries over how the process is found but not the `Test` flag. -/

/-- the launch method of a NEW client built from what `ReattachConfig()` returns; `none` = nil -/
def reattachConfigOf (P : Params) (s : State) : Option Launch :=
  match s.addr with
  | none => none
  | some _ =>
    match s.launch with
    | .reattach test => some (.reattach (test && P.reattachConfigKeepsTest))
    | _ => some (.reattach false)

/-- a new client built from that configuration.  It lives in the same world: the process table is
shared, its target is the instance the old client is connected to. -/
def nextGen (P : Params) (s : State) : Option State :=
  match s.addr, reattachConfigOf P s with
  | some a, some l => some { init l true with procs := s.procs, nProcs := s.nProcs, target := some a }
  | _, _ => none

def runFrom (P : Params) : State → List Event → Option State
  | s, [] => some s
  | s, e :: es =>
    match step P s e with
    | some s' => runFrom P s' es
    | none => none

/-- further generations: for each history, take `ReattachConfig()` of the current client, build a
new client from it and run the history on that one -/
def chainFrom (P : Params) : State → List (List Event) → Option State
  | s, [] => some s
  | s, es :: rest =>
    match nextGen P s with
    | none => none
    | some s1 =>
      match runFrom P s1 es with
      | none => none
      | some s2 => chainFrom P s2 rest

/-- a chain of clients: the first runs `es`, every further one is built from its predecessor's
`ReattachConfig()`; the result is the state of the LAST client (and of the shared process table) -/
def chain (P : Params) (s : State) (es : List Event) (rest : List (List Event)) : Option State :=
  match runFrom P s es with
  | none => none
  | some s1 => chainFrom P s1 rest

def Reachable (P : Params) (l : Launch) (alive : Bool) (s : State) : Prop :=
  ∃ es, runFrom P (init l alive) es = some s

/-! ### the serving side across host connections (net/rpc) -/

/-- what hosts do to a serving net/rpc plugin: connect, drop the connection without a word, or send `Control.Quit` -/
inductive ConnEv | connect | drop | quit
  deriving DecidableEq, Repr

/-- fact: `(*RPCServer).done` — which ends `Serve` and with it the plugin — is called from `controlServer.Quit` (and by
`Serve` itself when its listener fails), never from per-connection code -/
structure ServerParams where
  doneOnlyOnQuit : Bool
  deriving DecidableEq, Repr

def ServerParams.Good (S : ServerParams) : Prop := S.doneOnlyOnQuit = true

instance (S : ServerParams) : Decidable S.Good := by unfold ServerParams.Good; exact inferInstance

/-- is the plugin still serving after this history of host connections? -/
def serverUp (S : ServerParams) : List ConnEv → Bool
  | [] => true
  | .quit :: _ => false
  | .drop :: r => if S.doneOnlyOnQuit then serverUp S r else false
  | .connect :: r => serverUp S r

/-- fact: the stock `ReattachFunc` decides "is the plugin there?" by CONNECTING to its address (`net.Dial`, for every
network) and nothing else (no look at the file system) -/
structure ReattachParams where
  probeConnects : Bool
  /-- `CmdAttachedRunner.Wait` waits by POLLING the pid (`pidWait`), which works for any process — not with
  `os.Process.Wait`, which fails at once for a process that is not the caller's child -/
  waitPolls : Bool
  /-- the polling interval of `pidWait` in ms: a ticker with a constant period (0 = not of that shape) -/
  pollMs : Nat
  deriving DecidableEq, Repr

def ReattachParams.Good (R : ReattachParams) : Prop :=
  R.probeConnects = true ∧ R.waitPolls = true ∧ 0 < R.pollMs ∧ R.pollMs ≤ 1000
instance (R : ReattachParams) : Decidable R.Good := by unfold ReattachParams.Good; exact inferInstance

/-- does reattaching fail with the process-not-found error when NOTHING listens on the address?  `socketFileLeft`: the
target crashed, so its Unix socket file was never removed.  A probe that connects gets "connection refused" either way;
a probe that looks at the file is fooled by the left-over file. -/
def reattachNotFound (R : ReattachParams) (socketFileLeft : Bool) : Bool := R.probeConnects || !socketFileLeft

/-- does the exit watcher of a reattached client wait for the plugin itself?  (`isChild`: the plugin happens to be a child of
this host — in the tests; never in production, where another process launched it) -/
def reattachWaitFaithful (R : ReattachParams) (isChild : Bool) : Bool := R.waitPolls || isChild

/-- bound (ms) on the time between the plugin's death and the exit watcher noticing it, for a plugin that had been up for
`ageMs`: a constant polling period, or (the nearest other shape) an interval that keeps doubling and is by then as long
as the plugin has lived -/
def reattachExitNoticedWithin (R : ReattachParams) (ageMs : Nat) : Nat := if 0 < R.pollMs then R.pollMs else ageMs

end GoPlugin.Lifecycle
