import GoPlugin.Model.Lifecycle
import GoPlugin.Lemmas.Run
/-
Invariant of the Lifecycle model and its preservation.

The client has three write-once fields: `attempted` (guarded by `retryGuard`), `addr` (guarded by
`addrShortCircuit`) and `cached` (guarded by `clientCached`).  The invariant says what hangs on each: at most
one launch and only after `attempted` is set; every address returned is the recorded one; every protocol client
returned is the cached one.
-/
namespace GoPlugin.Lifecycle

theorem isRun (P : Params) : IsRun (step P) (runFrom P) :=
  ⟨fun _ => rfl, fun s e es => by simp only [runFrom]; cases step P s e <;> rfl⟩

theorem reachable_induction {P : Params} {l : Launch} {alive : Bool} {Inv : State → Prop} (h0 : Inv (init l alive))
    (hstep : ∀ s e s', Inv s → step P s e = some s' → Inv s') : ∀ s, Reachable P l alive s → Inv s :=
  fun _ ⟨_, hes⟩ => (isRun P).invariant hstep h0 hes

/-! ### the facts of the `Good`s, by name -/

namespace Params.Good
variable {P : Params} (h : P.Good)
include h
theorem retryGuard : P.retryGuard = true := h.1
theorem addrShortCircuit : P.addrShortCircuit = true := h.2.1
theorem clientCached : P.clientCached = true := h.2.2.1
theorem killRemovesDir : P.killRemovesDir = true := h.2.2.2.1
theorem testModeNoRunner : P.testModeNoRunner = true := h.2.2.2.2.1
theorem reattachConfigKeepsTest : P.reattachConfigKeepsTest = true := h.2.2.2.2.2.1
theorem startAtomic : P.startAtomic = true := h.2.2.2.2.2.2
end Params.Good

namespace ReattachParams.Good
variable {R : ReattachParams} (h : R.Good)
include h
theorem probeConnects : R.probeConnects = true := h.1
theorem waitPolls : R.waitPolls = true := h.2.1
theorem pollMs_pos : 0 < R.pollMs := h.2.2.1
theorem pollMs_le : R.pollMs ≤ 1000 := h.2.2.2
end ReattachParams.Good

/-! ### What `Start` and `Client()` do, concern by concern

Each lemma goes through the branches of the body (`fun_cases`); the branches of `doStart` are: 1 address already
recorded, 2–4 reattach (found / not alive / no target), 5–8 `Cmd` (refused / pipes taken / launched / launched and
handshake failed), 9–11 `RunnerFunc` (refused / launched / launched and handshake failed); those of `doClient`:
1 the cached client is returned, 2 a new one is made, 3 making it fails.  The names after `case caseN` go to the LAST
hypotheses of the branch. -/

theorem doStart_frame (P : Params) (s : State) (b : Bool) :
    (doStart P s b).1.outs = s.outs ∧ (doStart P s b).1.cached = s.cached ∧
    (doStart P s b).1.nextClient = s.nextClient := by
  fun_cases doStart P s b <;> exact ⟨rfl, rfl, rfl⟩

theorem doStart_launch_procs (P : Params) (s : State) (b : Bool) :
    (doStart P s b).1.launch = s.launch ∧ ∀ t, s.launch = .reattach t → (doStart P s b).1.procs = s.procs := by
  fun_cases doStart P s b <;> refine ⟨rfl, fun t hl => ?_⟩
  case case1 | case2 | case3 | case4 => rfl
  case case5 | case6 | case7 | case8 => exact Launch.noConfusion (hl.symm.trans ‹s.launch = .cmd›)
  case case9 | case10 | case11 => exact Launch.noConfusion (hl.symm.trans ‹s.launch = .runnerFunc›)

theorem doStart_out (P : Params) (s : State) (b : Bool) :
    (∀ a, (doStart P s b).2 = .okAddr a → (doStart P s b).1.addr = some a) ∧ ∀ c, (doStart P s b).2 ≠ .okClient c := by
  fun_cases doStart P s b
  case case1 t h =>
    have ht : s.addr = some t := (ite_eq_cases h).elim And.right fun h => nomatch h.2
    exact ⟨fun a e => (by cases e; exact ht), fun c e => nomatch e⟩
  case case2 | case7 | case10 => exact ⟨fun a e => (by cases e; rfl), fun c e => nomatch e⟩
  case case3 | case4 | case5 | case6 | case8 | case9 | case11 => exact ⟨fun a e => (nomatch e), fun c e => nomatch e⟩

theorem doStart_of_addr (P : Params) (h : P.addrShortCircuit = true) (s : State) (b : Bool) (a : Nat)
    (ha : s.addr = some a) : doStart P s b = (s, .okAddr a) := by
  simp [doStart, h, ha]

/-- the retry guard: `Start` launches only while no launch was attempted, and then sets `attempted` -/
theorem doStart_launches (P : Params) (h : P.retryGuard = true) (s : State) (b : Bool)
    (h1 : s.launches ≤ 1) (h2 : s.attempted = false → s.launches = 0) (h3 : s.dirsCreated ≤ s.launches) :
    (doStart P s b).1.launches ≤ 1 ∧ ((doStart P s b).1.attempted = false → (doStart P s b).1.launches = 0) ∧
    (doStart P s b).1.dirsCreated ≤ (doStart P s b).1.launches := by
  have fresh : ¬(P.retryGuard && s.attempted) = true → s.launches = 0 := fun hg => h2 (by simpa [h] using hg)
  fun_cases doStart P s b <;> dsimp +zetaDelta only
  case case1 | case2 | case3 | case4 | case5 | case9 => exact ⟨h1, h2, h3⟩
  case case6 => exact ⟨h1, Bool.noConfusion, h3⟩
  case case7 | case8 | case10 | case11 =>
    have := fresh ‹_›
    exact ⟨by omega, Bool.noConfusion, by omega⟩

theorem doStart_runner_test (P : Params) (h : P.testModeNoRunner = true) (s : State) (b : Bool)
    (hl : s.launch = .reattach true) : (doStart P s b).1.runner = s.runner := by
  fun_cases doStart P s b
  case case1 | case3 | case4 => rfl
  case case2 test hl' t _htarget _halive =>
    cases hl.symm.trans hl'
    simp [h]
  case case5 | case6 | case7 | case8 => exact Launch.noConfusion (hl.symm.trans ‹s.launch = .cmd›)
  case case9 | case10 | case11 => exact Launch.noConfusion (hl.symm.trans ‹s.launch = .runnerFunc›)

theorem doClient_frame (P : Params) (s : State) (b : Bool) :
    (doClient P s b).1 = { s with cached := (doClient P s b).1.cached, nextClient := (doClient P s b).1.nextClient } := by
  fun_cases doClient P s b <;> rfl

theorem doClient_cached (P : Params) (h : P.clientCached = true) (s : State) (b : Bool)
    (hb : ∀ c, s.cached = some c → c < s.nextClient) :
    (∀ c, s.cached = some c → (doClient P s b).1.cached = some c) ∧
    (∀ c, (doClient P s b).1.cached = some c → c < (doClient P s b).1.nextClient) ∧
    (∀ c, (doClient P s b).2 = .okClient c → (doClient P s b).1.cached = some c) ∧
    ∀ a, (doClient P s b).2 ≠ .okAddr a := by
  fun_cases doClient P s b <;> dsimp only
  case case1 c hc =>
    rw [h, if_pos rfl] at hc
    exact ⟨fun _ e => e, hb, fun c' e => (by cases e; exact hc), fun a e => nomatch e⟩
  case case2 hn _ =>
    rw [h, if_pos rfl] at hn
    exact ⟨fun c e => (nomatch hn.symm.trans e), fun c e => (by cases e; exact Nat.lt_succ_self _),
      fun c e => (by cases e; rfl), fun a e => nomatch e⟩
  case case3 hn _ =>
    rw [h, if_pos rfl] at hn
    exact ⟨fun c e => (nomatch hn.symm.trans e), fun c e => (nomatch e), fun c e => (nomatch e), fun a e => nomatch e⟩

structure Inv (s : State) : Prop where
  once : s.launches ≤ 1
  fresh : s.attempted = false → s.launches = 0
  dirs : s.dirsCreated ≤ s.launches
  addr_hist : ∀ a, Out.okAddr a ∈ s.outs → s.addr = some a
  client_hist : ∀ c, Out.okClient c ∈ s.outs → s.cached = some c
  client_bound : ∀ c, s.cached = some c → c < s.nextClient
  test_norunner : s.launch = .reattach true → s.runner = none

theorem Inv.dirs_le_one {s : State} (h : Inv s) : s.dirsCreated ≤ 1 := Nat.le_trans h.dirs h.once

theorem inv_init (l : Launch) (alive : Bool) : Inv (init l alive) := by
  -- every clause is about fields that `init` sets to `0`, `none`, `false` or `[]`
  cases l <;> constructor <;> simp [init]

theorem inv_emit {s : State} {o : Out} (h : Inv s) (ha : ∀ a, o = .okAddr a → s.addr = some a)
    (hc : ∀ c, o = .okClient c → s.cached = some c) : Inv (emit (s, o)) := by
  -- `{ h with … }` here and below: the clauses not named are those of `h`; they hold of the new state because it
  -- agrees with the old one on the fields they read
  refine { h with addr_hist := fun a hm => ?_, client_hist := fun c hm => ?_ }
  · rcases List.mem_append.1 hm with hm | hm
    · exact h.addr_hist a hm
    · exact ha a (List.mem_singleton.1 hm).symm
  · rcases List.mem_append.1 hm with hm | hm
    · exact h.client_hist c hm
    · exact hc c (List.mem_singleton.1 hm).symm

theorem inv_emit_plain {s : State} {o : Out} (h : Inv s) (ho : o = .err ∨ o = .unit) : Inv (emit (s, o)) :=
  inv_emit h (fun a e => by rcases ho with rfl | rfl <;> cases e) (fun c e => by rcases ho with rfl | rfl <;> cases e)

theorem inv_doStart (P : Params) (hP : P.Good) (s : State) (b : Bool) (h : Inv s) : Inv (doStart P s b).1 := by
  obtain ⟨hOuts, hCached, hNext⟩ := doStart_frame P s b
  obtain ⟨hLaunch, -⟩ := doStart_launch_procs P s b
  obtain ⟨hOnce, hFresh, hDirs⟩ := doStart_launches P hP.retryGuard s b h.once h.fresh h.dirs
  refine ⟨hOnce, hFresh, hDirs, fun a hm => ?_, by rw [hOuts, hCached]; exact h.client_hist,
    by rw [hCached, hNext]; exact h.client_bound, fun hl => ?_⟩
  · -- an address was returned before, so it is recorded, so this `Start` changes nothing
    have ha := h.addr_hist a (hOuts ▸ hm)
    rw [doStart_of_addr P hP.addrShortCircuit s b a ha]
    exact ha
  · rw [hLaunch] at hl
    rw [doStart_runner_test P hP.testModeNoRunner s b hl]
    exact h.test_norunner hl

theorem inv_doClient (P : Params) (hP : P.Good) (s : State) (b : Bool) (h : Inv s) : Inv (doClient P s b).1 := by
  obtain ⟨c1, c2, _⟩ := doClient_cached P hP.clientCached s b h.client_bound
  rw [doClient_frame]
  exact { h with client_hist := fun c hm => c1 c (h.client_hist c hm), client_bound := c2 }

/-- **Every event preserves the invariant.**  The branches of `step` (here and in `step_frame`): 1 `start`,
3 `startRaced` when `Start` is not atomic, 4/5 `client` with `Start` succeeding / failing, 6/7 `protocol` likewise,
8–10 the accessors, 11/12 `killA` without / with a runner, 13 `killB`, 15 `procDies` (2, 14, 16: not enabled). -/
theorem inv_step (P : Params) (hP : P.Good) (s s' : State) (e : Event) (h : Inv s) (hs : step P s e = some s') : Inv s' := by
  have hst : ∀ b s1 o, doStart P s b = (s1, o) → Inv s1 := fun b s1 o hd => by
    have := inv_doStart P hP s b h
    rwa [hd] at this
  revert hs
  fun_cases step P s e <;> intro hs <;> cases hs
  case case1 b =>
    exact inv_emit (inv_doStart P hP s b h) (doStart_out P s b).1 (fun c e => absurd e ((doStart_out P s b).2 c))
  case case3 b hna => exact absurd hP.startAtomic hna
  case case4 b c s1 a hd =>
    have hi := hst b s1 _ hd
    obtain ⟨_, _, c3, c4⟩ := doClient_cached P hP.clientCached s1 c hi.client_bound
    exact inv_emit (inv_doClient P hP s1 c hi) (fun a e => absurd e (c4 a)) c3
  case case5 b c s1 o _ hd => exact inv_emit_plain (hst b s1 o hd) (.inl rfl)
  case case6 b s1 a hd => exact inv_emit_plain (hst b s1 _ hd) (.inr rfl)
  case case7 b s1 o _ hd => exact inv_emit_plain (hst b s1 o hd) (.inl rfl)
  case case8 | case9 | case10 | case11 => exact inv_emit_plain h (.inr rfl)
  case case12 b c p hr s1 =>
    -- after the optional `Start`/`Client()` only `procs`, `kills`, `pendingKills` change: the invariant mentions none
    have h1 : Inv s1 := by
      dsimp only [s1]
      split
      · exact inv_doClient P hP _ c (inv_doStart P hP s b h)
      · exact h
    exact { h1 with }
  case case13 x hadDir rest hp d =>
    refine inv_emit_plain (s := { s with pendingKills := rest, runner := none, dirsLive := d }) ?_ (.inr rfl)
    exact { h with test_norunner := fun _ => rfl }
  case case15 p hp => exact { h with }

theorem inv_runFrom (P : Params) (hP : P.Good) (es : List Event) (s s' : State) (h : Inv s)
    (hr : runFrom P s es = some s') : Inv s' :=
  (isRun P).invariant (fun s e s' => inv_step P hP s s' e) h hr

theorem inv_of_reachable (P : Params) (hP : P.Good) (l : Launch) (alive : Bool) (s : State)
    (h : Reachable P l alive s) : Inv s :=
  let ⟨es, hes⟩ := h
  inv_runFrom P hP es _ s (inv_init l alive) hes

theorem step_frame (P : Params) (s s' : State) (e : Event) (hs : step P s e = some s') :
    s'.launch = s.launch ∧
    ∀ t, s.launch = .reattach t →
      s'.procs = s.procs ∨ (∃ p, e = .procDies p) ∨ ∃ a b p, e = .killA a b ∧ s.runner = some p := by
  let Same (s1 : State) : Prop := s1.launch = s.launch ∧ ∀ t, s.launch = .reattach t → s1.procs = s.procs
  have same : ∀ {s1 : State}, Same s1 → s1.launch = s.launch ∧ ∀ t, s.launch = .reattach t →
      s1.procs = s.procs ∨ (∃ p, e = .procDies p) ∨ ∃ a b p, e = .killA a b ∧ s.runner = some p :=
    fun h => ⟨h.1, fun t hl => .inl (h.2 t hl)⟩
  have hst : ∀ b s1 o, doStart P s b = (s1, o) → Same s1 := fun b s1 o hd => by
    have := doStart_launch_procs P s b
    rwa [hd] at this
  have hcl : ∀ {s1 : State} c, Same s1 → Same (doClient P s1 c).1 := fun c h => by rw [doClient_frame]; exact h
  revert hs
  fun_cases step P s e <;> intro hs <;> cases hs
  case case1 b => exact same (doStart_launch_procs P s b)
  case case3 b _ => exact same (doStart_launch_procs P _ b)
  case case4 b c s1 a hd => exact same (hcl c (hst b s1 _ hd))
  case case5 b c s1 o _ hd => exact same (hst b s1 o hd)
  case case6 b s1 a hd => exact same (hst b s1 _ hd)
  case case7 b s1 o _ hd => exact same (hst b s1 o hd)
  case case8 | case9 | case10 | case11 | case13 => exact same ⟨rfl, fun _ _ => rfl⟩
  case case12 b c p hr s1 =>
    refine ⟨?_, fun t _ => .inr (.inr ⟨b, c, p, rfl, hr⟩)⟩
    show s1.launch = s.launch
    dsimp only [s1]
    split
    · exact (hcl c (doStart_launch_procs P s b)).1
    · rfl
  case case15 p _ => exact ⟨rfl, fun _ _ => .inr (.inl ⟨p, rfl⟩)⟩

theorem killA_noop (P : Params) {s s' : State} {a b : Bool} (hr : s.runner = none)
    (hs : step P s (.killA a b) = some s') : s'.procs = s.procs ∧ s'.kills = s.kills ∧ s'.runner = none := by
  simp only [step, hr] at hs
  cases hs
  exact ⟨rfl, rfl, hr⟩

theorem nextGen_spec (P : Params) (s s1 : State) (h : nextGen P s = some s1) :
    Inv s1 ∧ s1.procs = s.procs ∧
    (∀ test, s.launch = .reattach test → s1.launch = .reattach (test && P.reattachConfigKeepsTest)) := by
  revert h
  fun_cases nextGen P s <;> intro h <;> cases h
  -- the one arm that builds a client: there is an address and so a configuration `l`
  case case1 a l hcfg haddr =>
    refine ⟨?_, rfl, fun test ht => ?_⟩
    · -- a new client but for `procs`, `nProcs` and `target`, which the invariant does not read
      cases l <;> exact { inv_init _ true with }
    · simp only [reattachConfigOf, haddr, ht, Option.some.injEq] at hcfg
      subst hcfg
      rfl

theorem chain_some {P : Params} {s s' : State} {es : List Event} {rest : List (List Event)}
    (h : chain P s es rest = some s') : ∃ s1, runFrom P s es = some s1 ∧ chainFrom P s1 rest = some s' := by
  unfold chain at h
  split at h
  · cases h
  · next s1 hr => exact ⟨s1, hr, h⟩

/-- the generations are a run of their own: one step builds the next client and runs its history on it -/
theorem chainFrom_isRun (P : Params) :
    IsRun (fun s es => (nextGen P s).bind fun s1 => runFrom P s1 es) (chainFrom P) :=
  ⟨fun _ => rfl, fun s es rest => by
    simp only [chainFrom]
    cases nextGen P s with
    | none => rfl
    | some s1 =>
      dsimp only [Option.bind_some]
      cases runFrom P s1 es <;> rfl⟩

/-! ### Test-mode clients

A client built in test mode holds no runner, so nothing it does touches the process table; and (with
`reattachConfigKeepsTest`) every client built from its `ReattachConfig()` is a test-mode client again. -/

structure TestClient (s : State) : Prop where
  inv : Inv s
  launch : s.launch = .reattach true

namespace TestClient
variable {P : Params} {s s' : State}

theorem norunner (h : TestClient s) : s.runner = none := h.inv.test_norunner h.launch

theorem init (alive : Bool) : TestClient (init (.reattach true) alive) := ⟨inv_init _ alive, rfl⟩

theorem step (hP : P.Good) (h : TestClient s) {e : Event} (hs : step P s e = some s') :
    TestClient s' ∧ ((∀ p, e ≠ .procDies p) → s'.procs = s.procs) :=
  have ⟨hLaunch, hProcs⟩ := step_frame P s s' e hs
  ⟨⟨inv_step P hP s s' e h.inv hs, hLaunch.trans h.launch⟩, fun hne => by
    -- a test-mode client holds no runner, so the only event left that touches the process table is `procDies`
    rcases hProcs true h.launch with hp | ⟨p, rfl⟩ | ⟨_, _, p, _, hr⟩
    · exact hp
    · exact absurd rfl (hne p)
    · exact nomatch h.norunner.symm.trans hr⟩

theorem runFrom (hP : P.Good) (h : TestClient s) {es : List Event} (hr : runFrom P s es = some s') :
    TestClient s' ∧ ((∀ e ∈ es, ∀ p, e ≠ .procDies p) → s'.procs = s.procs) :=
  (isRun P).invariant_on (Inv := fun x => TestClient x ∧ ((∀ e ∈ es, ∀ p, e ≠ .procDies p) → x.procs = s.procs))
    (fun _ e he _ ⟨hx, hp⟩ hs =>
      have ⟨hx', hp'⟩ := hx.step hP hs
      ⟨hx', fun hne => (hp' (hne e he)).trans (hp hne)⟩)
    ⟨h, fun _ => rfl⟩ hr

theorem of_reachable (hP : P.Good) {alive : Bool} (h : Reachable P (.reattach true) alive s) : TestClient s :=
  let ⟨_, hes⟩ := h
  ((init alive).runFrom hP hes).1

theorem nextGen (hP : P.Good) (h : TestClient s) (hn : nextGen P s = some s') : TestClient s' ∧ s'.procs = s.procs := by
  obtain ⟨hi, hp, hl⟩ := nextGen_spec P s s' hn
  exact ⟨⟨hi, by simpa [hP.reattachConfigKeepsTest] using hl true h.launch⟩, hp⟩

theorem chainFrom (hP : P.Good) (h : TestClient s) {rest : List (List Event)} (hc : chainFrom P s rest = some s') :
    TestClient s' ∧ ((∀ es ∈ rest, ∀ e ∈ es, ∀ p, e ≠ .procDies p) → s'.procs = s.procs) :=
  (chainFrom_isRun P).invariant_on
    (Inv := fun x => TestClient x ∧ ((∀ es ∈ rest, ∀ e ∈ es, ∀ p, e ≠ .procDies p) → x.procs = s.procs))
    (fun _ es he _ ⟨hx, hp⟩ hs =>
      have ⟨_, hn, hr⟩ := Option.bind_eq_some_iff.1 hs
      have ⟨hx1, hp1⟩ := hx.nextGen hP hn
      have ⟨hx2, hp2⟩ := hx1.runFrom hP hr
      ⟨hx2, fun hne => (hp2 (hne es he)).trans (hp1.trans (hp hne))⟩)
    ⟨h, fun _ => rfl⟩ hc

end TestClient

end GoPlugin.Lifecycle
