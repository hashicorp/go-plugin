import GoPlugin.Props.C04
import GoPlugin.Generated.Facts
/- C04 at the facts extracted from the current source. -/
namespace GoPlugin.Instance.C04
open Kill Props.C04

/-- grace 2 s with a force kill after it, a deadline on the gRPC shutdown RPC, a closed connection on
Quit counted as graceful, the deferred wait for the client's goroutines with `c.runner` cleared only after it, yamux
keep-alive on net/rpc, the runner recorded before its `Start` is called, and a gRPC `Shutdown` that stops the server at once -/
theorem facts_good : Facts.kill.Good := by decide

theorem holds_kill_terminates (proto : Proto) (beh : Beh) (lost hasAddr clientOk : Bool) :
    (kill Facts.kill proto beh lost hasAddr clientOk).returns = true ∧
    (kill Facts.kill proto beh lost hasAddr clientOk).boundMs ≤ libDeadPeerMs + 2000 :=
  have ⟨hReturns, hBound, _⟩ := kill_terminates _ facts_good proto beh lost hasAddr clientOk
  ⟨hReturns, hBound⟩

theorem holds_kill_leaves_dead (proto : Proto) (beh : Beh) (lost hasAddr clientOk : Bool) :
    (kill Facts.kill proto beh lost hasAddr clientOk).procDead = true ∧ (kill Facts.kill proto beh lost hasAddr clientOk).exitedFlag = true :=
  kill_leaves_dead _ facts_good proto beh lost hasAddr clientOk

theorem holds_graceful_not_forced (proto : Proto) (lost : Bool) :
    (kill Facts.kill proto .exitsFast lost true true).forced = false :=
  (graceful_not_forced _ facts_good proto lost).1

theorem cleanup_facts_good : Facts.cleanupClients.Good := by decide

/-- CleanupClients over ANY list of managed clients: all plugins gone and reported as exited when it returns -/
theorem holds_cleanup_clients_all_dead (ms : List Managed) :
    ∀ o ∈ cleanupAll Facts.kill Facts.cleanupClients ms, o.returns = true ∧ o.procDead = true ∧ o.exitedFlag = true :=
  (cleanup_clients_all_dead _ facts_good _ cleanup_facts_good ms).1

theorem holds_overlapping_kill_keeps_grace (proto : Proto) (lost closeAgainOk : Bool) :
    (overlapped Facts.killOverlap Facts.kill proto .exitsFast lost true closeAgainOk).forced = false ∧
    (overlapped Facts.killOverlap Facts.kill proto .exitsFast lost true closeAgainOk).cleanedUp = true :=
  overlapping_kill_keeps_grace _ (by decide) _ facts_good proto lost closeAgainOk

end GoPlugin.Instance.C04
