import GoPlugin.Lemmas.Env
import GoPlugin.Lemmas.Bytes
/-
C17 — Plugin launch environment and stdin are determined by the client config.

Property theorems, the lemmas they rest on, witnesses and examples.  Quantifiers: every structural-fact record `P`
satisfying `Params.Good`, every client configuration `c` (cookie, ports, any
set of versions in any iteration order, mux / AutoMTLS / socket group /
RunnerFunc / SkipHostEnv on or off, any certificate and socket directory),
every host environment `hostEnv` (any list of byte strings, including hosts
that carry go-plugin's own variables, duplicates, entries without `=`), every
list `cmdEnv` of entries the caller pre-set on `config.Cmd`.

`cmdEnv` is part of the client configuration (it is `config.Cmd.Env`); the
host environment is not.
-/
namespace GoPlugin.Props.C17
open Go Env

/-- The magic cookie key can be an environment variable name (no `=`) and is
not one of go-plugin's own negotiation variables. -/
def CookieOk (c : ClientCfg) : Prop := eqc ∉ c.cookieKey ∧ c.cookieKey ∉ negotiationKeys

instance (c : ClientCfg) : Decidable (CookieOk c) := by unfold CookieOk; exact inferInstance

/-- What the client configuration dictates for every variable the plugin acts
on, stated on the environment `env` the child observes.  The four conditional
variables are *unset* when the configuration does not ask for them — unless the
caller's own `config.Cmd.Env` sets them, which is configuration too. -/
structure Dictated (c : ClientCfg) (cmdEnv env : List Bytes) : Prop where
  cookie : effective env c.cookieKey = some c.cookieValue
  minPort : effective env kMinPort = some (renderPort c.minPort)
  maxPort : effective env kMaxPort = some (renderPort c.maxPort)
  versions : effective env kVersions = some (renderVersions c.versions)
  mux : effective env kMux = if c.mux then some sTrue else effective cmdEnv kMux
  cert : effective env kCert = if c.autoMTLS then some c.cert else effective cmdEnv kCert
  group : effective env kGroup = if c.group ≠ [] then some c.group else effective cmdEnv kGroup
  dir : effective env kDir = if c.runnerFunc then some c.socketDir else effective cmdEnv kDir

/-- Does the configuration itself ask for conditional variable `k`? -/
def requested (c : ClientCfg) (k : Bytes) : Bool :=
  (k == kMux && c.mux) || (k == kCert && c.autoMTLS) || (k == kGroup && c.group != []) ||
  (k == kDir && c.runnerFunc)

private theorem eff_optp (b : Prop) [Decidable b] (k' v k : Bytes) (h : eqc ∉ k') :
    effective (if b then [entry k' v] else []) k = if b ∧ k' = k then some v else none := by
  by_cases hb : b <;> simp [hb, effective_cons_entry _ _ _ _ h, effective_nil]

private theorem eff_configured (c : ClientCfg) (k : Bytes) :
    effective (configured c) k =
      (if c.runnerFunc = true ∧ kDir = k then some c.socketDir else none).or
      ((if c.group ≠ [] ∧ kGroup = k then some c.group else none).or
      ((if c.autoMTLS = true ∧ kCert = k then some c.cert else none).or
      ((if c.mux = true ∧ kMux = k then some sTrue else none).or
      ((if kVersions = k then some (renderVersions c.versions) else none).or
      ((if kMaxPort = k then some (renderPort c.maxPort) else none).or
      ((if kMinPort = k then some (renderPort c.minPort) else none).or
      (effective [entry c.cookieKey c.cookieValue] k))))))) := by
  unfold configured
  -- the seven names hold no `=` (`by decide`)
  rw [effective_append, effective_append, effective_append, effective_append,
    eff_optp _ kDir _ _ (by decide), eff_optp _ kGroup _ _ (by decide), eff_optp _ kCert _ _ (by decide),
    eff_optp _ kMux _ _ (by decide)]
  rw [← List.singleton_append, effective_append, effective_cons_entry kMinPort _ _ _ (by decide),
    effective_cons_entry kMaxPort _ _ _ (by decide), effective_cons_entry kVersions _ _ _ (by decide), effective_nil]
  simp [Option.or_assoc]

private theorem buildEnv_last (P : Params) (hL : P.configuredLast = true) (c : ClientCfg) (cmdEnv hostEnv : List Bytes) :
    buildEnv P c cmdEnv hostEnv = cmdEnv ++ hostPart P c hostEnv ++ configured c := by
  simp [buildEnv, hL]

private theorem eff_build (P : Params) (hL : P.configuredLast = true) (c : ClientCfg) (cmdEnv hostEnv : List Bytes) (k : Bytes) :
    effective (buildEnv P c cmdEnv hostEnv) k =
      (effective (configured c) k).or ((effective (hostPart P c hostEnv) k).or (effective cmdEnv k)) := by
  rw [buildEnv_last P hL]
  rw [effective_append, effective_append]

private theorem hostPart_good (P : Params) (hP : P.Good) (c : ClientCfg) (hostEnv : List Bytes) :
    hostPart P c hostEnv =
      if c.skipHostEnv then [] else hostEnv.filter (fun e => !(P.stripped.contains (cutKey e))) := by
  simp [hostPart, filterHost, hP.guardedBySkip, hP.perElement]

private theorem hostPart_none (P : Params) (hP : P.Good) (c : ClientCfg) (hostEnv : List Bytes)
    (k : Bytes) (hk : k ∈ conditionalKeys) : effective (hostPart P c hostEnv) k = none := by
  rw [hostPart_good P hP]
  split
  · rfl
  · exact effective_filter_none _ _ _ (hP.stripsConditional k hk)

/-- The table of the configured entries alone (nothing pre-set, nothing inherited). -/
private theorem configured_dictated (c : ClientCfg) (hc : CookieOk c) : Dictated c [] (configured c) := by
  obtain ⟨hNoEq, hNotOwn⟩ := hc
  have hne : ∀ k ∈ negotiationKeys, ¬ k = c.cookieKey := fun k hk e => hNotOwn (e ▸ hk)
  have h1 := hne kMinPort (by decide)
  have h2 := hne kMaxPort (by decide)
  have h3 := hne kVersions (by decide)
  have h4 := hne kMux (by decide)
  have h5 := hne kCert (by decide)
  have h6 := hne kGroup (by decide)
  have h7 := hne kDir (by decide)
  have hck := fun k => effective_cons_entry c.cookieKey c.cookieValue [] k hNoEq
  -- the seven names are pairwise distinct closed byte strings: `+decide` settles every `kX = kY` test
  constructor <;> rw [eff_configured c]
  case cookie => simp [h1, h2, h3, h4, h5, h6, h7, hck, effective_nil]
  case mux => cases c.mux <;> simp +decide [hck, effective_nil, Ne.symm h4]
  case cert => cases c.autoMTLS <;> simp +decide [hck, effective_nil, Ne.symm h5]
  case group => by_cases hx : c.group = [] <;> simp +decide [hck, effective_nil, Ne.symm h6, hx]
  case dir => cases c.runnerFunc <;> simp +decide [hck, effective_nil, Ne.symm h7]
  case minPort | maxPort | versions => simp +decide

/-- The unconditional variables need only the order: a different cookie value or port range in the host's environment
or on the caller's command never wins (the configured entries are appended later). -/
theorem unconditional_controls_any_params (P : Params) (hL : P.configuredLast = true) (c : ClientCfg) (hc : CookieOk c)
    (cmdEnv hostEnv : List Bytes) :
    effective (buildEnv P c cmdEnv hostEnv) c.cookieKey = some c.cookieValue ∧
    effective (buildEnv P c cmdEnv hostEnv) kMinPort = some (renderPort c.minPort) ∧
    effective (buildEnv P c cmdEnv hostEnv) kMaxPort = some (renderPort c.maxPort) := by
  have T := configured_dictated c hc
  simp only [eff_build P hL, T.cookie, T.minPort, T.maxPort, Option.some_or, and_self]

/-- **Every negotiation variable the child observes is what the client
configuration dictates** — the cookie, the port range, the rendered version
list, and each conditional variable exactly when (and with the value) the
configuration asks for it; independent of the host environment. -/
theorem controls_from_config (P : Params) (hP : P.Good) (c : ClientCfg) (hc : CookieOk c)
    (cmdEnv hostEnv : List Bytes) : Dictated c cmdEnv (buildEnv P c cmdEnv hostEnv) := by
  have hL : P.configuredLast = true := hP.configuredLast
  have T := configured_dictated c hc
  have U := unconditional_controls_any_params P hL c hc cmdEnv hostEnv
  refine ⟨U.1, U.2.1, U.2.2, ?_, ?_, ?_, ?_, ?_⟩
  · rw [eff_build P hL, T.versions, Option.some_or]
  · rw [eff_build P hL, T.mux, hostPart_none P hP c hostEnv kMux (by decide)]
    cases c.mux <;> simp [effective_nil]
  · rw [eff_build P hL, T.cert, hostPart_none P hP c hostEnv kCert (by decide)]
    cases c.autoMTLS <;> simp [effective_nil]
  · rw [eff_build P hL, T.group, hostPart_none P hP c hostEnv kGroup (by decide)]
    by_cases hx : c.group = [] <;> simp [effective_nil, hx]
  · rw [eff_build P hL, T.dir, hostPart_none P hP c hostEnv kDir (by decide)]
    cases c.runnerFunc <;> simp [effective_nil]

/-- a plain configuration: cookie `K=V`, ports 10000–25000, versions {1, 2}, nothing optional -/
def cfgPlain : ClientCfg :=
  ⟨[75], [86], 10000, 25000, [1, 2], false, false, [], [], false, [], false⟩

/-- a facts record of a tree that filters the conditional variables -/
def goodParams : Params := ⟨true, conditionalKeys, true, true, true⟩

example : goodParams.Good := by decide
example : CookieOk cfgPlain := by decide
/-- non-vacuity: a host that is itself a plugin; the child still sees no mux flag -/
example : effective (buildEnv goodParams cfgPlain [] [entry kMux sTrue, entry [72] [49]]) kMux = none := by decide

/-- **Unset when not requested**: a conditional variable the configuration does
not ask for (and the caller did not put into `config.Cmd.Env`) is unset in the
child, whatever the host environment contains. -/
theorem controls_unset_when_not_requested (P : Params) (hP : P.Good) (c : ClientCfg) (hc : CookieOk c)
    (cmdEnv hostEnv : List Bytes) (k : Bytes) (hk : k ∈ conditionalKeys)
    (hreq : requested c k = false) (hcmd : effective cmdEnv k = none) :
    effective (buildEnv P c cmdEnv hostEnv) k = none := by
  have D := controls_from_config P hP c hc cmdEnv hostEnv
  simp only [conditionalKeys, List.mem_cons, List.not_mem_nil, or_false] at hk
  -- at each of the four keys `requested` is the one flag
  rcases hk with rfl | rfl | rfl | rfl <;> simp +decide [requested] at hreq
  · rw [D.mux, hreq]; exact hcmd
  · rw [D.cert, hreq]; exact hcmd
  · rw [D.group]; simpa [hreq] using hcmd
  · rw [D.dir, hreq]; exact hcmd

example : requested cfgPlain kCert = false ∧ effective ([] : List Bytes) kCert = none := by decide

/-- **The host's own environment has no influence** on any variable the plugin
negotiates with: two hosts differing only in their environment launch children
that observe the same cookie and the same `PLUGIN_*` negotiation values. -/
theorem controls_independent_of_host (P : Params) (hP : P.Good) (c : ClientCfg) (hc : CookieOk c)
    (cmdEnv hostEnv hostEnv' : List Bytes) (k : Bytes) (hk : k ∈ negotiationKeys ∨ k = c.cookieKey) :
    effective (buildEnv P c cmdEnv hostEnv) k = effective (buildEnv P c cmdEnv hostEnv') k := by
  have D := controls_from_config P hP c hc cmdEnv hostEnv
  have D' := controls_from_config P hP c hc cmdEnv hostEnv'
  rcases hk with hk | rfl
  · simp only [negotiationKeys, List.mem_cons, List.not_mem_nil, or_false] at hk
    rcases hk with rfl | rfl | rfl | rfl | rfl | rfl | rfl
    · rw [D.minPort, D'.minPort]
    · rw [D.maxPort, D'.maxPort]
    · rw [D.versions, D'.versions]
    · rw [D.mux, D'.mux]
    · rw [D.cert, D'.cert]
    · rw [D.group, D'.group]
    · rw [D.dir, D'.dir]
  · rw [D.cookie, D'.cookie]

example : effective (buildEnv goodParams cfgPlain [] [entry kCert [120]]) kCert
    = effective (buildEnv goodParams cfgPlain [] []) kCert := by decide

/-- **SkipHostEnv**: the launched environment is the caller's pre-set entries
followed by the configured ones — it does not depend on the host environment
at all, so no host variable is passed. -/
theorem skip_host_env (P : Params) (hP : P.Good) (c : ClientCfg) (hskip : c.skipHostEnv = true)
    (cmdEnv hostEnv : List Bytes) :
    buildEnv P c cmdEnv hostEnv = cmdEnv ++ configured c := by
  simp [buildEnv_last P hP.configuredLast, hostPart_good P hP, hskip]

/-- … in membership form: every entry of the result was pre-set by the caller or is configured. -/
theorem skip_host_env_mem (P : Params) (hP : P.Good) (c : ClientCfg) (hskip : c.skipHostEnv = true)
    (cmdEnv hostEnv : List Bytes) :
    ∀ e ∈ buildEnv P c cmdEnv hostEnv, e ∈ cmdEnv ∨ e ∈ configured c := by
  rw [skip_host_env P hP c hskip]
  intro e he
  exact List.mem_append.1 he

example : buildEnv goodParams { cfgPlain with skipHostEnv := true } [[65, 61, 49]] [[72, 61, 49]]
    = [[65, 61, 49]] ++ configured cfgPlain := by decide

/-- **Without SkipHostEnv the user's variables pass through untouched**: every
host entry whose name is not one of go-plugin's own negotiation variables is
handed to the plugin, in the host's order. -/
theorem host_env_passed (P : Params) (hP : P.Good) (c : ClientCfg) (hskip : c.skipHostEnv = false)
    (cmdEnv hostEnv : List Bytes) :
    (hostEnv.filter (fun e => !(negotiationKeys.contains (cutKey e)))).Sublist (buildEnv P c cmdEnv hostEnv) := by
  have h1 : (hostEnv.filter (fun e => !(negotiationKeys.contains (cutKey e)))).Sublist
      (hostPart P c hostEnv) := by
    simp only [hostPart_good P hP, hskip, Bool.false_eq_true, if_false]
    -- whatever is not a negotiation variable is not stripped, so filtering the kept entries again changes nothing
    have : hostEnv.filter (fun e => !(negotiationKeys.contains (cutKey e))) =
        (hostEnv.filter (fun e => !(P.stripped.contains (cutKey e)))).filter
          (fun e => !(negotiationKeys.contains (cutKey e))) := by
      rw [List.filter_filter]
      apply List.filter_congr
      intro e _
      cases hs : P.stripped.contains (cutKey e)
      · simp
      · simpa using hP.stripsOnlyOwn _ (List.contains_iff_mem.1 hs)
    rw [this]
    exact List.filter_sublist
  rw [buildEnv_last P hP.configuredLast]
  exact (h1.trans (List.sublist_append_right cmdEnv _)).trans (List.sublist_append_left _ _)

example : [72, 61, 49] ∈ buildEnv goodParams cfgPlain [] [entry kMux sTrue, [72, 61, 49]] := by decide

private theorem renderVersions_eq_nil (vs : List Int) : renderVersions vs = [] ↔ vs = [] := by
  cases vs with
  | nil => simp [renderVersions, join]
  | cons v vs =>
    have hi : itoa v ≠ [] := itoa_ne_nil v
    cases vs <;> simp [renderVersions, join, hi]

private theorem parse_renderVersions (vs : List Int) (hne : vs ≠ [])
    (hrange : ∀ v ∈ vs, -(2 ^ 63 : Int) ≤ v ∧ v < (2 ^ 63 : Int)) :
    (split comma (renderVersions vs)).map atoi = vs.map some := by
  rw [renderVersions, split_join comma _ (by simpa using hne) (by
    intro f hf
    obtain ⟨v, _, rfl⟩ := List.mem_map.1 hf
    exact not_mem_itoa v comma (by decide) (by decide))]
  exact map_atoi_map_itoa _ hrange

/-- **Exactly the offered versions**: whatever order the map iteration produced
(`c.versions` is any permutation of the offered keys), `PLUGIN_PROTOCOL_VERSIONS`
is set, is empty iff nothing is offered, and splitting it at commas and parsing
each piece with `strconv.Atoi` (what the plugin does) succeeds on every piece
and yields a permutation of the offered keys.  Needs only that the configured entries come last. -/
theorem versions_exact (P : Params) (hL : P.configuredLast = true) (c : ClientCfg) (cmdEnv hostEnv : List Bytes)
    (offered : List Int) (hperm : c.versions.Perm offered)
    (hrange : ∀ v ∈ offered, -(2 ^ 63 : Int) ≤ v ∧ v < (2 ^ 63 : Int)) :
    ∃ value, effective (buildEnv P c cmdEnv hostEnv) kVersions = some value ∧
      (value = [] ↔ offered = []) ∧
      (offered ≠ [] → ∃ parsed : List Int,
        (split comma value).map atoi = parsed.map some ∧ parsed.Perm offered) := by
  refine ⟨renderVersions c.versions, ?_, ?_, fun hne => ⟨c.versions, ?_, hperm⟩⟩
  · rw [eff_build P hL, eff_configured c]
    simp +decide
  · rw [renderVersions_eq_nil]
    exact ⟨fun h => List.nil_perm.1 (h ▸ hperm), fun h => List.perm_nil.1 (h ▸ hperm)⟩
  · exact parse_renderVersions _ (fun h => hne (List.nil_perm.1 (h ▸ hperm)))
      fun v hv => hrange v (hperm.mem_iff.1 hv)

example : effective (buildEnv goodParams { cfgPlain with versions := [2, -1, 10] } [] []) kVersions
    = some [50, 44, 45, 49, 44, 49, 48] := by decide

/-- **Stdin**: the runner receives the host's own stdin, whatever was pre-set on `config.Cmd`. -/
theorem stdin_is_host_stdin (P : Params) (hP : P.Good) (c : ClientCfg) (cmdEnv hostEnv : List Bytes) (s : Stdin) :
    (launch P c cmdEnv hostEnv s).stdin = .host ∧
    (launch P c cmdEnv hostEnv s).env = buildEnv P c cmdEnv hostEnv := by
  simp [launch, hP.stdinFromStart]

/-- Witness: when the stdin default is applied anywhere but unconditionally in `Start`, a command that carries a stdin
of its own keeps it -/
theorem stdin_not_from_start_witness :
    (launch ⟨true, conditionalKeys, true, true, false⟩ cfgPlain [] [] .preset).stdin = .preset := by decide

example : (launch goodParams cfgPlain [] [] .preset).stdin = .host := by decide

/-! ### The structural facts matter: witnesses of the violation when a fact is false -/

/-- the facts of the tree that appends `os.Environ()` unfiltered -/
def unfilteredParams : Params := ⟨true, [], true, true, true⟩

/-- **D8**: on a tree that inherits the host environment unfiltered, a host that
is itself a plugin (its environment carries go-plugin's variables) passes each
of the four conditional variables on to a child whose configuration asks for
none of them. -/
theorem inherited_controls_witness :
    ¬ unfilteredParams.Good ∧
    ∀ k ∈ conditionalKeys,
      requested cfgPlain k = false ∧
      effective (buildEnv unfilteredParams cfgPlain [] [entry k sTrue]) k = some sTrue := by decide

/-- Filtering only some of them is not enough: each conditional variable needs to be stripped. -/
theorem partial_strip_witness :
    effective (buildEnv ⟨true, [kMux, kCert, kGroup], true, true, true⟩ cfgPlain [] [entry kDir [47, 120]]) kDir = some [47, 120] := by
  decide

/-- With `SkipHostEnv` not guarding the append, host variables reach the plugin. -/
theorem skip_unguarded_witness :
    ¬ (⟨false, conditionalKeys, true, true, true⟩ : Params).Good ∧
    [72, 61, 49] ∈ buildEnv ⟨false, conditionalKeys, true, true, true⟩ { cfgPlain with skipHostEnv := true } [] [[72, 61, 49]] := by
  decide

/-- A filter that also removes variables that are not go-plugin's is rejected by `Good`
(and `host_env_passed` fails for it): here `HOME` is dropped. -/
theorem overstrip_witness :
    ¬ (⟨true, [72, 79, 77, 69] :: conditionalKeys, true, true, true⟩ : Params).Good ∧
    entry [72, 79, 77, 69] [47] ∉
      buildEnv ⟨true, [72, 79, 77, 69] :: conditionalKeys, true, true, true⟩ cfgPlain [] [entry [72, 79, 77, 69] [47]] := by
  decide

/-! ### The filter loop itself: no conditional variable survives, wherever it stands -/

/-- **No conditional variable of the host environment survives the filter** —
for every host environment: any number of go-plugin's conditional variables,
at any positions, adjacent to each other or not, with duplicates, with entries
without `=`.  Every entry of the inherited part carries a key that is not one
of the four conditional names. -/
theorem no_conditional_survives (P : Params) (hP : P.Good) (c : ClientCfg) (hostEnv : List Bytes) :
    ∀ e ∈ hostPart P c hostEnv, cutKey e ∉ conditionalKeys := by
  intro e he hk
  rw [hostPart_good P hP] at he
  split at he
  · simp at he
  · simp only [List.mem_filter, Bool.not_eq_true', List.contains_eq_mem, decide_eq_false_iff_not] at he
    exact he.2 (hP.stripsConditional _ hk)

/-- … in terms of what the runner receives: an entry of `cmd.Env` named like a
conditional variable was pre-set by the caller on `config.Cmd` or is one of the
entries the configuration itself asks for — never one of the host's. -/
theorem conditional_entries_from_config (P : Params) (hP : P.Good) (c : ClientCfg)
    (cmdEnv hostEnv : List Bytes) :
    ∀ e ∈ buildEnv P c cmdEnv hostEnv, cutKey e ∈ conditionalKeys → e ∈ cmdEnv ∨ e ∈ configured c := by
  intro e he hk
  rw [buildEnv_last P hP.configuredLast] at he
  simp only [List.mem_append] at he
  rcases he with (he | he) | he
  · exact .inl he
  · exact absurd hk (no_conditional_survives P hP c hostEnv e he)
  · exact .inr he

/-- non-vacuity: all four conditional variables in one adjacent run, one of them twice — nothing is inherited -/
example : hostPart goodParams cfgPlain
    [entry kMux sTrue, entry kCert [120], entry kCert [121], entry kGroup [49], entry kDir [47], [72, 61, 49]]
    = [[72, 61, 49]] := by decide

/-- No entry to be removed directly follows another entry to be removed. -/
def noAdjacentDrops (drop : Bytes → Bool) : List Bytes → Bool
  | [] => true
  | [_] => true
  | a :: b :: es => !(drop a && drop b) && noAdjacentDrops drop (b :: es)

/-- The in-place loop is only wrong after a deletion: on a host environment in
which no entry to be removed directly follows another one (in particular with
at most one such entry) it computes the same list as the per-element filter.
This is why placing single variables, or several non-adjacent ones, in the host
environment cannot expose it. -/
theorem deleteSkipping_eq_filter_of_no_adjacent (drop : Bytes → Bool) (env : List Bytes)
    (h : noAdjacentDrops drop env = true) :
    deleteSkipping drop env = env.filter (fun e => !drop e) := by
  -- cases of `deleteSkipping`: 1 empty; 2/3 a single entry, dropped/kept; 4 head dropped (the next one is skipped); 5 head kept
  induction env using deleteSkipping.induct drop with
  | case1 => rfl
  | case2 e hd => simp [deleteSkipping, hd]
  | case3 e hd => simp [deleteSkipping, hd]
  | case4 e e' es hd ih =>
    simp only [noAdjacentDrops, hd, Bool.true_and, Bool.and_eq_true, Bool.not_eq_true'] at h
    have h3 : noAdjacentDrops drop es = true := by
      cases es with
      | nil => rfl
      | cons x xs =>
        have := h.2
        simp only [noAdjacentDrops, Bool.and_eq_true] at this
        exact this.2
    simp [deleteSkipping, hd, h.1, ih h3]
  | case5 e e' es hd ih =>
    simp only [noAdjacentDrops, Bool.and_eq_true] at h
    simp [deleteSkipping, hd, ih h.2]

example : noAdjacentDrops (fun e => conditionalKeys.contains (cutKey e))
    [entry kMux sTrue, [72, 61, 49], entry kCert [120]] = true := by decide

/-- the facts of a tree whose `hostEnviron` deletes in place without stepping back -/
def inPlaceParams : Params := ⟨true, conditionalKeys, false, true, true⟩

/-- **The loop shape matters.**  With the right set of names but the in-place
index loop, the second of two ADJACENT conditional variables of the host
reaches a child whose configuration asks for neither (a host launched with
multiplexing + AutoMTLS carries exactly this pair, in this order); so does the
second of two entries with the same name; while a single variable, or two
separated by another entry, are removed — which is all a generator without
adjacent conditional variables ever tries. -/
theorem inplace_filter_witness :
    ¬ inPlaceParams.Good ∧
    requested cfgPlain kCert = false ∧
    effective (buildEnv inPlaceParams cfgPlain [] [entry kMux sTrue, entry kCert [120]]) kCert = some [120] ∧
    effective (buildEnv inPlaceParams cfgPlain [] [entry kCert [120], entry kCert [121]]) kCert = some [121] ∧
    effective (buildEnv inPlaceParams cfgPlain [] [[72, 61, 49], entry kCert [120]]) kCert = none ∧
    effective (buildEnv inPlaceParams cfgPlain [] [entry kMux sTrue, [72, 61, 49], entry kCert [120]]) kCert = none := by
  decide

/-- … and `no_conditional_survives` fails for it. -/
theorem inplace_filter_survivor_witness :
    entry kCert [120] ∈ hostPart inPlaceParams cfgPlain [entry kMux sTrue, entry kCert [120]] ∧
    cutKey (entry kCert [120]) ∈ conditionalKeys := by decide

/-- the configured cookie wins over the host's even on the tree that inherits the environment unfiltered -/
example : effective (buildEnv unfilteredParams cfgPlain [] [entry [75] [88]]) [75] = some [86] := by decide

/-- Witness: with the caller's entries placed after the configured ones, a stale version list on the caller's command is
what the plugin sees (the client offers 3, the plugin is told 77) -/
theorem caller_wins_witness :
    effective (buildEnv ⟨true, conditionalKeys, true, false, true⟩ { cfgPlain with versions := [3] } [entry kVersions [55, 55]] []) kVersions
      = some [55, 55] := by decide

end GoPlugin.Props.C17
