/-
Multiplexed gRPC broker (grpc_broker.go mux branches + internal/grpcmux) as a
labelled transition system: establishment of brokered connections over the
single yamux session by the knock / AcceptKnock / ack / Dial handshake.

`X` is the accepting side (it calls `GRPCBroker.Accept(id)`), `Y` the dialling
side.  Two roles for `X`:
* `server` — `X` is the plugin: `GRPCServerMuxer`; its main `Accept` loop takes
  every new yamux stream and routes it by the token in `knockCh`
  (a stream with no token goes to the plugin's main gRPC listener; a token for
  an id without a registered listener is a fatal accept error for the main
  gRPC server);
* `client` — `X` is the host: `GRPCClientMuxer`; `AcceptKnock` looks the
  listener up and unblocks it, the unblocked `blockedClientListener` then
  calls `session.Accept()` itself.

The dialling side's `dialMutex` admits one handshake at a time and the
messages of one handshake are causally sequential, so the in-progress
handshake is a single program counter `hs`.  What is left to the scheduler is
exactly what matters for the property: the order of the two statements of
`Accept` (start the knock loop / register the listener) relative to the
handshake, the main accept loop, and main-connection streams.

Assumption carried by `dialBegin`'s guard (`Params.sequential`): brokered
connections are established one at a time, i.e. a new handshake starts only
when the previous stream has been handed to its listener.  Knock timeouts
(5 s) are not modelled: every knock is acknowledged within its window.
-/
namespace GoPlugin.GrpcMux

inductive Role | server | client
  deriving DecidableEq, Repr

structure Params where
  /-- in `GRPCBroker.Accept` (mux branch) the listener is registered with the muxer BEFORE the knock loop goroutine is started -/
  registerFirst : Bool
  /-- capacity of `GRPCServerMuxer.knockCh` (the host side's `blockedClientListener.waitCh` holds at least one token) -/
  tokenCap : Nat
  /-- environment assumption: establishments are sequential (see file header) -/
  sequential : Bool
  /-- `GRPCServerMuxer.Accept` hands a knocked stream to its listener with a BLOCKING send (`acceptCh <- …`, no
  `default`/fallback): it waits until the listener's `Accept()` takes it, however late that is called -/
  handoffBlocks : Bool
  /-- a knock parked on the accepting side (nobody has accepted its id yet) is dropped BEFORE its dialler stops waiting
  for the ack (`Run` starts an expiry for every incoming knock, shorter than the dialler's wait), so a knock is only ever
  answered while its dialler is still there to open the stream -/
  knocksExpire : Bool
  deriving DecidableEq, Repr

def Params.Good (P : Params) : Prop :=
  P.registerFirst = true ∧ P.tokenCap = 1 ∧ P.sequential = true ∧ P.handoffBlocks = true ∧ P.knocksExpire = true

instance (P : Params) : Decidable P.Good := by unfold Params.Good; exact inferInstance

inductive Tag | main | brokered (id : Nat)
  deriving DecidableEq, Repr

inductive Dest | default | listener (id : Nat) | fatal
  deriving DecidableEq, Repr

/-- progress of one `Accept(id)` call on X -/
inductive APc | none | gotSlot | half | done
  deriving DecidableEq, Repr

/-- the in-progress handshake -/
inductive Hs
  | idle
  | knockSent (id : Nat)      -- knock message on the wire
  | parked (id : Nat)         -- filed by X's Run in serverStreams[id].ch
  | kGot (id : Nat)           -- received by listenForKnocks(id)
  | tokenPut (id : Nat)       -- AcceptKnock succeeded
  | ackErr (id : Nat)         -- AcceptKnock failed ("no listener for id")
  | ackSent (id : Nat)
  | ackErrSent (id : Nat)
  | acked (id : Nat)          -- Y got the ack, about to open the stream
  deriving DecidableEq, Repr

structure State where
  role : Role
  reg : Nat → Bool
  kStarted : Nat → Bool
  apc : Nat → APc
  hs : Hs
  /-- `knockCh` (server role) -/
  tok : Option Nat
  /-- `waitCh` tokens (client role) -/
  waitTok : Nat → Bool
  /-- number of `waitCh` tokens outstanding -/
  waitCount : Nat
  /-- yamux accept queue on X, oldest first -/
  q : List Tag
  delivered : List (Tag × Dest)
  mainDead : Bool
  /-- results of Y's dial attempts: (id, handshake succeeded) -/
  results : List (Nat × Bool)
  /-- a knock for this id is still parked on X although its dialler has given up waiting for the ack -/
  stale : Nat → Bool

def init (r : Role) : State :=
  ⟨r, fun _ => false, fun _ => false, fun _ => .none, .idle, none, fun _ => false, 0, [], [], false, [], fun _ => false⟩

def updB (f : Nat → Bool) (i : Nat) (v : Bool) : Nat → Bool := fun j => if j = i then v else f j
def updA (f : Nat → APc) (i : Nat) (v : APc) : Nat → APc := fun j => if j = i then v else f j

inductive Event
  | acceptBegin (id : Nat)
  /-- first of the two middle statements of `Accept` -/
  | acceptFirst (id : Nat)
  /-- second of the two middle statements -/
  | acceptSecond (id : Nat)
  | dialBegin (id : Nat)
  | runKnock
  | kRecv
  | kAcceptKnock
  | kAck
  | dialAck
  | dialOpen
  /-- a main-connection stream is opened towards X (server role) -/
  | mainStream
  /-- server role: the main accept loop takes the next stream -/
  | xAccept
  /-- server role: the main accept loop takes the next stream while the token's listener is NOT parked in its
  `Accept()` (the plugin called `broker.Accept(n)` and starts serving the listener a little later).  With a blocking
  hand-off this is no step at all — the loop waits, and the step is `xAccept` when the listener arrives. -/
  | xAcceptUnparked
  /-- client role: the unblocked listener `id` takes the next stream -/
  | lAccept (id : Nat)
  /-- Y's dial gives up: the knock is still parked on X (no knock loop for its id has taken it) when the 5 s wait for
  the ack ends; `Dial` returns an error.  What becomes of the parked knock is the fact `knocksExpire`. -/
  | dialGiveUp
  /-- a knock loop started later takes a parked knock whose dialler has already given up, and answers it -/
  | kRecvStale (id : Nat)
  deriving DecidableEq, Repr

/-- the two events about knocks nobody waits for any more (kept apart from `step` so that its equation stays small) -/
def stepStale (P : Params) (s : State) : Event → Option State
  | .dialGiveUp =>
    match s.hs with
    | .parked id => some { s with hs := .idle, stale := if P.knocksExpire then s.stale else updB s.stale id true }
    | _ => none
  | .kRecvStale id =>
    if s.stale id ∧ s.kStarted id ∧ s.hs = .idle then
      match s.role with
      | .server => if s.tok = none then some { s with tok := some id, stale := updB s.stale id false } else none
      | .client =>
        if s.reg id ∧ !s.waitTok id then
          some { s with waitTok := updB s.waitTok id true, waitCount := s.waitCount + 1, stale := updB s.stale id false }
        else none
    else none
  | _ => none

def noMain (q : List Tag) : Bool := q.all (fun t => t != .main)

def step (P : Params) (s : State) : Event → Option State
  | .acceptBegin id =>
    if s.apc id = .none then some { s with apc := updA s.apc id .gotSlot } else none
  | .acceptFirst id =>
    if s.apc id = .gotSlot then
      if P.registerFirst then some { s with apc := updA s.apc id .half, reg := updB s.reg id true }
      else some { s with apc := updA s.apc id .half, kStarted := updB s.kStarted id true }
    else none
  | .acceptSecond id =>
    if s.apc id = .half then
      if P.registerFirst then some { s with apc := updA s.apc id .done, kStarted := updB s.kStarted id true }
      else some { s with apc := updA s.apc id .done, reg := updB s.reg id true }
    else none
  | .dialBegin id =>
    if s.hs = .idle ∧ noMain s.q = true ∧
       (P.sequential = true → s.q = [] ∧ s.tok = none ∧ s.waitCount = 0) then
      some { s with hs := .knockSent id }
    else none
  | .runKnock =>
    match s.hs with
    | .knockSent id => some { s with hs := .parked id }
    | _ => none
  | .kRecv =>
    match s.hs with
    | .parked id => if s.kStarted id then some { s with hs := .kGot id } else none
    | _ => none
  | .kAcceptKnock =>
    match s.hs with
    | .kGot id =>
      match s.role with
      | .server =>
        -- `m.knockCh <- id`: blocks while the buffer is full
        if s.tok = none then some { s with tok := some id, hs := .tokenPut id } else none
      | .client =>
        if s.reg id then
          if s.waitTok id then none        -- `waitCh <- struct{}{}` blocks
          else some { s with waitTok := updB s.waitTok id true, waitCount := s.waitCount + 1, hs := .tokenPut id }
        else some { s with hs := .ackErr id }
    | _ => none
  | .kAck =>
    match s.hs with
    | .tokenPut id => some { s with hs := .ackSent id }
    | .ackErr id => some { s with hs := .ackErrSent id }
    | _ => none
  | .dialAck =>
    match s.hs with
    | .ackSent id => some { s with hs := .acked id }
    | .ackErrSent id => some { s with hs := .idle, results := s.results ++ [(id, false)] }
    | _ => none
  | .dialOpen =>
    match s.hs with
    | .acked id => some { s with hs := .idle, q := s.q ++ [.brokered id], results := s.results ++ [(id, true)] }
    | _ => none
  | .mainStream =>
    if s.role = .server ∧ s.hs = .idle ∧ s.tok = none then some { s with q := s.q ++ [.main] } else none
  | .xAccept =>
    match s.role, s.q with
    | .server, t :: q' =>
      if s.mainDead then none else
      match s.tok with
      | some id =>
        if s.reg id then some { s with q := q', tok := none, delivered := s.delivered ++ [(t, .listener id)] }
        else some { s with q := q', tok := none, delivered := s.delivered ++ [(t, .fatal)], mainDead := true }
      | none => some { s with q := q', delivered := s.delivered ++ [(t, .default)] }
    | _, _ => none
  | .xAcceptUnparked =>
    match s.role, s.q with
    | .server, t :: q' =>
      if s.mainDead || P.handoffBlocks then none else
      match s.tok with
      | some id =>
        if s.reg id then some { s with q := q', tok := none, delivered := s.delivered ++ [(t, .default)] } else none
      | none => none
    | _, _ => none
  | .lAccept id =>
    match s.role, s.q with
    | .client, t :: q' =>
      if s.reg id ∧ s.waitTok id then
        some { s with q := q', waitTok := updB s.waitTok id false, waitCount := s.waitCount - 1, delivered := s.delivered ++ [(t, .listener id)] }
      else none
    | _, _ => none
  | .dialGiveUp => stepStale P s .dialGiveUp
  | .kRecvStale id => stepStale P s (.kRecvStale id)

def runFrom (P : Params) : State → List Event → Option State
  | s, [] => some s
  | s, e :: es =>
    match step P s e with
    | some s' => runFrom P s' es
    | none => none

def Reachable (P : Params) (r : Role) (s : State) : Prop := ∃ es, runFrom P (init r) es = some s

/-- fact: both muxers' `Listener(id, doneCh)` build a NEW listener on every call and register it under `id`, replacing
whatever was registered before (no look-up that hands an earlier listener — with its earlier, possibly closed, `doneCh` —
out again) -/
structure ListenerParams where
  listenerReplaces : Bool
  deriving DecidableEq, Repr

def ListenerParams.Good (L : ListenerParams) : Prop := L.listenerReplaces = true
instance (L : ListenerParams) : Decidable L.Good := by unfold ListenerParams.Good; exact inferInstance

/-- an ID is accepted again after its earlier listener was closed (`earlierClosed`): is the listener that `Accept` hands
out this time one whose `Accept()` can block for a stream (`true`), or the earlier one, which returns EOF at once? -/
def reacceptUsable (L : ListenerParams) (earlierClosed : Bool) : Bool := L.listenerReplaces || !earlierClosed

/-- fact: the main accept loop's hand-off of a knocked stream to its listener also watches the channel that is closed
when that listener is closed (the `doneCh` it was built with): a listener closed between the acknowledgement of its
knock and the arrival of the announced stream releases the loop, which closes the stream and goes on accepting -/
structure HandoffParams where
  releasedOnClose : Bool
  deriving DecidableEq, Repr

def HandoffParams.Good (H : HandoffParams) : Prop := H.releasedOnClose = true
instance (H : HandoffParams) : Decidable H.Good := by unfold HandoffParams.Good; exact inferInstance

/-- the plugin's main accept loop has taken a stream announced for a listener; `taken` = that listener's `Accept()` is
(or will be) there to take it, `closed` = the listener has been closed.  Does the loop get past the hand-off (and so
accept the streams that follow: later brokered connections, new transports of the main connection)? -/
def loopPastHandoff (H : HandoffParams) (taken closed : Bool) : Bool := taken || (closed && H.releasedOnClose)

/-- fact: the knock loop of a multiplexed listener waits on the pending slot `Accept` registered the listener with — it is
handed that slot — and not on whatever slot a look-up by id returns when the loop's goroutine finally runs -/
structure KnockLoopParams where
  usesAcceptSlot : Bool
  /-- the close hook of a multiplexed listener removes the id's pending entry from the table only while that entry is still
  the one the listener was registered with (a listener can be closed more than once, and the id accepted again in between) -/
  closeRemovesOwnEntryOnly : Bool
  deriving DecidableEq, Repr

def KnockLoopParams.Good (K : KnockLoopParams) : Prop := K.usesAcceptSlot = true ∧ K.closeRemovesOwnEntryOnly = true
instance (K : KnockLoopParams) : Decidable K.Good := by unfold KnockLoopParams.Good; exact inferInstance

/-- the listener has been closed (its slot's `doneCh` closed, the slot removed from the table).  `closedBeforeLoopRan`:
that happened before the knock loop's goroutine executed its first statement.  Does the loop end?  (A loop that looks
the slot up by id then creates a FRESH slot, whose `doneCh` nothing ever closes: it outlives the listener, the broker
and `Kill`.) -/
def knockLoopEnds (K : KnockLoopParams) (closedBeforeLoopRan : Bool) : Bool := K.usesAcceptSlot || !closedBeforeLoopRan

/-- an id is accepted again right after its listener was closed, and the OLD listener is closed once more afterwards (its
gRPC server stops).  Is the new listener's pending entry still in the table, so that the next knock for the id reaches
its knock loop? -/
def reacceptedEntrySurvives (K : KnockLoopParams) (oldClosedAgain : Bool) : Bool := K.closeRemovesOwnEntryOnly || !oldClosedAgain

/-- fact (host side): closing a brokered listener that holds a token — its knock was acknowledged, the announced stream
was never accepted — takes that stream off the session and closes it, instead of leaving it for whichever listener is
unblocked next -/
structure ClientCloseParams where
  discardsAnnounced : Bool
  /-- `blockedClientListener.unblock` never blocks (a select with a default arm): it is called with the client muxer's lock
  held, so a listener nobody is accepting on cannot hold up the knocks — and the `Accept`s — of every other id -/
  unblockNeverBlocks : Bool
  deriving DecidableEq, Repr

def ClientCloseParams.Good (C : ClientCloseParams) : Prop := C.discardsAnnounced = true ∧ C.unblockNeverBlocks = true
instance (C : ClientCloseParams) : Decidable C.Good := by unfold ClientCloseParams.Good; exact inferInstance

/-- the host's session queue when the listener of `next` is unblocked by its knock, after the listener of `closed` was
closed; `tokenPending` = `closed`'s knock had been acknowledged and its stream never accepted.  Streams are queued in
the order they were announced. -/
def queueAtNextAccept (C : ClientCloseParams) (tokenPending : Bool) (closed next : Nat) : List Tag :=
  (if tokenPending && !C.discardsAnnounced then [Tag.brokered closed] else []) ++ [Tag.brokered next]

/-- `knocks` knocks have been acknowledged for a host-side listener on which nobody is accepting (a second dial to a
pending id is `knocks = 2`).  Is the client muxer's lock free afterwards, i.e. can the host still `Accept` another id and
answer another id's knock?  (With a blocking send into the one-slot token channel the second knock's loop sits in that send
WITH the lock.) -/
def muxerLockFree (C : ClientCloseParams) (knocks : Nat) : Bool := C.unblockNeverBlocks || knocks ≤ 1

/-- the stream the listener of `next` accepts: the head of the queue -/
def nextAccepts (C : ClientCloseParams) (tokenPending : Bool) (closed next : Nat) : Option Tag :=
  (queueAtNextAccept C tokenPending closed next).head?

/-- fact: the knock for a brokered connection is sent by the dial function handed to gRPC — the function gRPC calls for
EVERY transport it creates for that connection (the first, and each one after a GOAWAY, a keepalive failure or a
transport error) — in the same critical section that opens the stream; not once by `Dial` itself -/
structure DialerParams where
  knockPerTransport : Bool
  deriving DecidableEq, Repr

def DialerParams.Good (D : DialerParams) : Prop := D.knockPerTransport = true
instance (D : DialerParams) : Decidable D.Good := by unfold DialerParams.Good; exact inferInstance

/-- of the `transports` streams a brokered connection for `id` opens over its life, the tags the accepting side sees
them with: announced by a knock of their own (`brokered id`), or unannounced — which the accepting side's muxer hands
to the MAIN listener -/
def transportTags (D : DialerParams) (id transports : Nat) : List Tag :=
  (List.range transports).map (fun k => if D.knockPerTransport || k == 0 then Tag.brokered id else Tag.main)

end GoPlugin.GrpcMux
