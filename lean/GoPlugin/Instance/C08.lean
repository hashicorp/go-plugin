import GoPlugin.Props.C08
import GoPlugin.Generated.Facts
import GoPlugin.Props.Hygiene
/- C08 at the facts extracted from the current source. -/
namespace GoPlugin.Instance.C08
open GrpcMux Props.C08

/-- the current source registers the listener before starting the knock loop; token channels have capacity one; the
muxer hands a knocked stream to its listener with a blocking send; a parked knock expires before its dialler gives up
(and establishments are sequential: the model's environment assumption) -/
theorem facts_good : Facts.grpcMux.Good := by decide

theorem holds_routed (r : Role) (s : State) (h : Reachable Facts.grpcMux r s) (t : Tag) (d : Dest)
    (hd : (t, d) ∈ s.delivered) : (∀ n, t = .brokered n → d = .listener n) ∧ (t = .main → d = .default) :=
  routed_to_its_listener _ facts_good r s h t d hd

theorem holds_main_survives (r : Role) (s : State) (h : Reachable Facts.grpcMux r s) : s.mainDead = false :=
  main_survives _ facts_good r s h

theorem holds_reaccept_usable (earlierClosed : Bool) : GrpcMux.reacceptUsable Facts.grpcMuxListener earlierClosed = true :=
  Props.C08.reaccept_usable _ (by decide) earlierClosed

theorem holds_every_transport_announced (id transports : Nat) :
    ∀ t ∈ GrpcMux.transportTags Facts.grpcMuxDialer id transports, t = GrpcMux.Tag.brokered id :=
  Props.C08.every_transport_announced _ (by decide) id transports

theorem holds_door_open_at_arrival (doorDelayMs arriveAfterAckMs : Nat) : Hygiene.doorOpenAtArrival Facts.hygiene doorDelayMs arriveAfterAckMs = true :=
  Props.Hygiene.door_open_at_arrival _ (by decide) doorDelayMs arriveAfterAckMs

theorem holds_reaccepted_entry_survives (oldClosedAgain : Bool) :
    GrpcMux.reacceptedEntrySurvives Facts.grpcKnockLoop oldClosedAgain = true :=
  Props.C08.reaccepted_entry_survives _ (by decide) oldClosedAgain

end GoPlugin.Instance.C08
