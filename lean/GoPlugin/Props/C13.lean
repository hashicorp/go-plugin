import GoPlugin.Model.Secure
/-
C13 — SecureConfig runs the binary only if its checksum matches.

Quantifiers: every structural-fact record `P` satisfying `Params.Good`, every hash function `h : Bytes → Bytes` (no
assumption on it whatsoever — not even determinism beyond being a function),
every file content / open error / read error, every checksum byte string,
every client configuration.  The `SecureConfig`'s hasher is fresh
(`written = []`): `Check` does not `Reset` it (see `reuse_hashes_concatenation`).
-/

namespace GoPlugin.Secure
namespace Params.Good
variable {P : Params} (h : P.Good)
include h
private theorem reattachGuard : P.reattachGuard = true := h.1
private theorem checkBeforeLaunch : P.checkBeforeLaunch = true := h.2.1
private theorem errReturns : P.errReturns = true := h.2.2.1
private theorem mismatchReturns : P.mismatchReturns = true := h.2.2.2.1
private theorem checksCmdPath : P.checksCmdPath = true := h.2.2.2.2
end Params.Good
namespace CheckParams.Good
variable {C : CheckParams} (h : C.Good)
include h
private theorem wholeFile : C.wholeFile = true := h.1
private theorem everyStart : C.everyStart = true := h.2.1
private theorem checksumAsGiven : C.checksumAsGiven = true := h.2.2
end CheckParams.Good
end GoPlugin.Secure

namespace GoPlugin.Props.C13
open Go Secure

/-- The borrow trick: `uint32(v) - 1` has its top bit set exactly for `v = 0`. -/
private theorem byteEq_zero (v : UInt8) : constantTimeByteEq v 0 = if v = 0 then 1 else 0 := by
  by_cases hv : v = 0
  · subst hv; decide
  · have hne : v.toNat ≠ 0 := fun h0 => hv (UInt8.toNat_inj.mp (by simpa using h0))
    have hlt := v.toNat_lt
    rw [if_neg hv]
    unfold constantTimeByteEq
    -- 2³² − 1 + v wraps to v − 1 < 2³¹: the top bit is clear
    have : ((4294967295 + v.toNat) % 4294967296) >>> 31 = 0 := by omega
    simpa [UInt32.toNat_shiftRight, UInt32.toNat_sub] using this

private theorem orXor_eq_zero_iff : ∀ (x y : Bytes) (v : UInt8), x.length = y.length →
    (orXor v x y = 0 ↔ v = 0 ∧ x = y)
  | [], [], v, _ => by simp [orXor]
  | [], _ :: _, _, h => by simp at h
  | _ :: _, [], _, h => by simp at h
  | x :: xs, y :: ys, v, h => by
    have hl : xs.length = ys.length := by simpa using h
    simp only [orXor, orXor_eq_zero_iff xs ys _ hl, UInt8.or_eq_zero_iff, UInt8.xor_eq_zero_iff,
      List.cons.injEq, and_assoc]

theorem ctc_eq (x y : Bytes) : constantTimeCompare x y = if x = y then 1 else 0 := by
  unfold constantTimeCompare
  by_cases hl : x.length = y.length
  · simp only [hl, ne_eq, not_true_eq_false, if_false, byteEq_zero, orXor_eq_zero_iff x y 0 hl, true_and]
  · have hne : x ≠ y := fun h => hl (congrArg List.length h)
    simp only [ne_eq, hl, not_false_eq_true, if_true, if_neg hne]

/-- **The comparison is exact**: Go's constant-time compare (length test, OR-fold of
XORs, `uint32` borrow trick) answers 1 iff the two byte strings are equal —
no prefix, no length-insensitive, no "all but one bit" match. -/
theorem ctc_eq_one_iff (x y : Bytes) : constantTimeCompare x y = 1 ↔ x = y := by
  rw [ctc_eq]; split <;> simp [*]

/-- It never answers anything but 0 or 1. -/
theorem ctc_zero_or_one (x y : Bytes) : constantTimeCompare x y = 0 ∨ constantTimeCompare x y = 1 := by
  rw [ctc_eq]; split
  · exact .inr rfl
  · exact .inl rfl

/-- `Check` answers `(true, nil)` iff the checksum is non-empty, a hash is present, the
file can be opened and read, and the hash of what the hasher has been fed equals the checksum. -/
theorem check_true_iff (h : Bytes → Bytes) (s : SecureCfg) (f : FileRes) :
    check h s f = .ok true ↔
      s.checksum ≠ [] ∧ s.hashNil = false ∧ ∃ b, f = .data b ∧ h (s.written ++ b) = s.checksum := by
  unfold check
  by_cases hc : s.checksum = []
  · simp [hc]
  · cases hn : s.hashNil <;> cases f <;> simp [hc, ctc_eq_one_iff]

/-- What the property statement calls "the hash of the file at the command path equals
the configured checksum", spelled out with the two preconditions `Check` adds. -/
def Matches (s : SecureCfg) (e : Ext) : Prop :=
  s.checksum ≠ [] ∧ s.hashNil = false ∧ ∃ b, e.file = .data b ∧ e.hash b = s.checksum

/-- A configuration that asks for a launch: exactly one of `Cmd` / `RunnerFunc`, no `Reattach`. -/
def Launching (c : Config) : Prop :=
  c.hasReattach = false ∧ c.hasCmd ≠ c.hasRunnerFunc

private theorem check_matches (e : Ext) (s : SecureCfg) (hw : s.written = []) :
    check e.hash s e.file = .ok true ↔ Matches s e := by
  rw [check_true_iff, hw]
  rfl

/-- `Launching` in the terms of `Start`'s options block: the count of the three is one, and the one is not `Reattach`. -/
private theorem launching_iff (c : Config) :
    Launching c ↔ c.hasCmd.toNat + c.hasReattach.toNat + c.hasRunnerFunc.toNat = 1 ∧ c.hasReattach = false := by
  unfold Launching
  cases c.hasCmd <;> cases c.hasRunnerFunc <;> cases c.hasReattach <;> decide

private theorem start_launching (P : Params) (hP : P.Good) (c : Config) (e : Ext) (s : SecureCfg)
    (hs : c.secure = some s) (hc : Launching c) :
    startSecure P c e =
      match verdict P (check e.hash s e.file) with
      | some err => ⟨.err err, [.check (check e.hash s e.file)]⟩
      | none => launch e [.check (check e.hash s e.file)] := by
  obtain ⟨hopt, hr⟩ := (launching_iff c).1 hc
  -- the four early returns are passed; under `Good` the check comes first and is `check` on `e.file`
  rw [startSecure, if_neg (not_not_intro hopt)]
  simp only [hs, hr, hP.checkBeforeLaunch, gate, hP.checksCmdPath, Option.isSome_some, Bool.and_false, Bool.false_and,
    Bool.false_eq_true, ↓reduceIte]
  rfl

/-- the error `Start` returns for an answer of `Check` other than `(true, nil)` -/
private def failure : CheckRes → StartErr
  | .err k => .verifying k
  | .ok _ => .checksumsDoNotMatch

private theorem start_failed (P : Params) (hP : P.Good) (c : Config) (e : Ext) (s : SecureCfg)
    (hs : c.secure = some s) (hc : Launching c) (r : CheckRes) (hk : check e.hash s e.file = r)
    (hr : r ≠ .ok true) :
    startSecure P c e = ⟨.err (failure r), [.check r]⟩ ∧ (startSecure P c e).launched = false := by
  rw [start_launching P hP c e s hs hc, hk]
  match r, hr with
  | .err k, _ => simp [verdict, failure, hP.errReturns, Result.launched]
  | .ok false, _ => simp [verdict, failure, hP.mismatchReturns, Result.launched]

private theorem trace_nil_of_not_launching (P : Params) (hP : P.Good) (c : Config) (e : Ext) (s : SecureCfg)
    (hs : c.secure = some s) (h : ¬ Launching c) : (startSecure P c e).trace = [] := by
  rw [startSecure]
  by_cases hopt : c.hasCmd.toNat + c.hasReattach.toNat + c.hasRunnerFunc.toNat = 1
  · -- the one option set is `Reattach`, which the guard refuses beside a `SecureConfig`
    have hr : c.hasReattach = true := by simpa [launching_iff, hopt] using h
    rw [if_neg (not_not_intro hopt)]
    simp [hr, hs, hP.reattachGuard]
  · rw [if_pos hopt]

/-- **With a `SecureConfig`, a process is launched exactly when the configuration asks for a launch, `Check` answers
`(true, nil)` and the launch machinery works.** -/
theorem launched_iff (P : Params) (hP : P.Good) (c : Config) (e : Ext) (s : SecureCfg) (hs : c.secure = some s) :
    (startSecure P c e).launched = true ↔ Launching c ∧ check e.hash s e.file = .ok true ∧ e.runnerOk = true := by
  by_cases hl : Launching c
  · by_cases hk : check e.hash s e.file = .ok true
    · rw [start_launching P hP c e s hs hl, hk]
      cases hro : e.runnerOk <;> simp [verdict, launch, hro, Result.launched, hl]
    · simp [(start_failed P hP c e s hs hl _ rfl hk).2, hk]
  · simp [Result.launched, trace_nil_of_not_launching P hP c e s hs hl, hl]

/-- **Launched iff the checksum matches** (for every file, checksum and hash function):
with a `SecureConfig` on a launching configuration, a plugin process is started iff the
checksum is non-empty, a hash function is present, the file at the command path is
readable and its hash equals the checksum.  (`hr`: the launch machinery itself works;
without it see `launch_only_if_match`, which needs no such hypothesis.) -/
theorem launch_iff_match (P : Params) (hP : P.Good) (c : Config) (e : Ext) (s : SecureCfg)
    (hs : c.secure = some s) (hw : s.written = []) (hc : Launching c) (hr : e.runnerOk = true) :
    (startSecure P c e).launched = true ↔
      s.checksum ≠ [] ∧ s.hashNil = false ∧ ∃ b, e.file = .data b ∧ e.hash b = s.checksum := by
  rw [launched_iff P hP c e s hs, check_matches e s hw]
  exact ⟨fun ⟨_, hm, _⟩ => hm, fun hm => ⟨hc, hm, hr⟩⟩

/-- **Only if**, with no hypothesis on the configuration or on the launch machinery:
whenever a `SecureConfig` is set and a process was launched, the checksum matched. -/
theorem launch_only_if_match (P : Params) (hP : P.Good) (c : Config) (e : Ext) (s : SecureCfg)
    (hs : c.secure = some s) (hw : s.written = []) :
    (startSecure P c e).launched = true → Matches s e ∧ Launching c ∧ e.runnerOk = true := by
  intro h
  obtain ⟨hl, hk, hro⟩ := (launched_iff P hP c e s hs).1 h
  exact ⟨(check_matches e s hw).1 hk, hl, hro⟩

/-- **Empty checksum**: `Check` returns `ErrSecureConfigNoChecksum` (whatever the hash and
the file), `Start` returns it wrapped, and nothing is launched. -/
theorem empty_checksum_err (P : Params) (hP : P.Good) (c : Config) (e : Ext) (s : SecureCfg)
    (hs : c.secure = some s) (hc : Launching c) (h0 : s.checksum = []) :
    (∀ h f, check h s f = .err .noChecksum) ∧
    startSecure P c e = ⟨.err (.verifying .noChecksum), [.check (.err .noChecksum)]⟩ ∧
    (startSecure P c e).launched = false := by
  have hk : ∀ h f, check h s f = .err .noChecksum := by intro h f; simp [check, h0]
  exact ⟨hk, start_failed P hP c e s hs hc _ (hk _ _) (by simp)⟩

/-- **Missing hash function** (with a non-empty checksum): `ErrSecureConfigNoHash`, nothing launched. -/
theorem nil_hash_err (P : Params) (hP : P.Good) (c : Config) (e : Ext) (s : SecureCfg)
    (hs : c.secure = some s) (hc : Launching c) (h0 : s.checksum ≠ []) (hn : s.hashNil = true) :
    (∀ h f, check h s f = .err .noHash) ∧
    startSecure P c e = ⟨.err (.verifying .noHash), [.check (.err .noHash)]⟩ ∧
    (startSecure P c e).launched = false := by
  have hk : ∀ h f, check h s f = .err .noHash := by intro h f; simp [check, h0, hn]
  exact ⟨hk, start_failed P hP c e s hs hc _ (hk _ _) (by simp)⟩

/-- **Any other checksum** — different, truncated, extended, one bit off: whenever the file
is readable and its hash is not *equal* to the (non-empty) checksum, `Check` answers
`(false, nil)`, `Start` returns exactly `ErrChecksumsDoNotMatch`, and nothing is launched. -/
theorem mismatch_err (P : Params) (hP : P.Good) (c : Config) (e : Ext) (s : SecureCfg) (b : Bytes)
    (hs : c.secure = some s) (hw : s.written = []) (hc : Launching c)
    (h0 : s.checksum ≠ []) (hn : s.hashNil = false) (hf : e.file = .data b)
    (hne : e.hash b ≠ s.checksum) :
    check e.hash s e.file = .ok false ∧
    startSecure P c e = ⟨.err .checksumsDoNotMatch, [.check (.ok false)]⟩ ∧
    (startSecure P c e).launched = false := by
  have hctc : ¬ constantTimeCompare (e.hash b) s.checksum = 1 := fun h => hne ((ctc_eq_one_iff _ _).1 h)
  have hk : check e.hash s e.file = .ok false := by
    simp [check, h0, hn, hf, hw, hctc]
  exact ⟨hk, start_failed P hP c e s hs hc _ hk (by simp)⟩

/-- **Unreadable file** (missing, or a directory): the open/read error is returned wrapped, nothing is launched. -/
theorem unreadable_err (P : Params) (hP : P.Good) (c : Config) (e : Ext) (s : SecureCfg)
    (hs : c.secure = some s) (hc : Launching c) (h0 : s.checksum ≠ []) (hn : s.hashNil = false)
    (hf : e.file = .openErr ∨ e.file = .readErr) :
    (∃ k, (k = .open ∨ k = .read) ∧ startSecure P c e = ⟨.err (.verifying k), [.check (.err k)]⟩) ∧
    (startSecure P c e).launched = false := by
  rcases hf with hf | hf
  · have := start_failed P hP c e s hs hc (.err .open) (by simp [check, h0, hn, hf]) (by simp)
    exact ⟨⟨.open, Or.inl rfl, this.1⟩, this.2⟩
  · have := start_failed P hP c e s hs hc (.err .read) (by simp [check, h0, hn, hf]) (by simp)
    exact ⟨⟨.read, Or.inr rfl, this.1⟩, this.2⟩

/-- **The check comes first**: with a `SecureConfig`, in every run the trace is either empty
(rejected or reattached before anything), a lone check (failed, or passed with the launch
itself failing), or a check that answered `true` immediately followed by the one launch.
In particular every launch is preceded by a passed check and nothing runs before the check. -/
theorem check_before_launch (P : Params) (hP : P.Good) (c : Config) (e : Ext) (s : SecureCfg)
    (hs : c.secure = some s) :
    let t := (startSecure P c e).trace
    t = [] ∨ (∃ r, t = [.check r]) ∨ t = [.check (.ok true), .launch] := by
  dsimp only
  by_cases hl : Launching c
  · by_cases hk : check e.hash s e.file = .ok true
    · rw [start_launching P hP c e s hs hl, hk]
      cases hro : e.runnerOk <;> simp [verdict, launch, hro]
    · rw [(start_failed P hP c e s hs hl _ rfl hk).1]
      exact .inr (.inl ⟨_, rfl⟩)
  · exact .inl (trace_nil_of_not_launching P hP c e s hs hl)

/-- **Reattach + SecureConfig is refused before anything**: no check, no launch, no reattach. -/
theorem secure_and_reattach_err (P : Params) (hP : P.Good) (c : Config) (e : Ext)
    (hs : c.secure.isSome = true) (hr : c.hasReattach = true) :
    (startSecure P c e).trace = [] ∧
    ((startSecure P c e).out = .err .options ∨ (startSecure P c e).out = .err .secureAndReattach) ∧
    ((startSecure P c e).out = .err .secureAndReattach ↔ (c.hasCmd = false ∧ c.hasRunnerFunc = false)) := by
  unfold startSecure
  simp only [hs, hr, hP.reattachGuard, Bool.and_self, if_true]
  cases h1 : c.hasCmd <;> cases h2 : c.hasRunnerFunc <;> simp

/-! ### The structural facts matter: with any of them false the property fails (witnesses). -/

/-- A 4-byte toy hash (length, XOR of the bytes, sum of the bytes, a constant). -/
def toyHash (b : Bytes) : Bytes :=
  [UInt8.ofNat b.length, b.foldl (· ^^^ ·) 0, b.foldl (· + ·) 0, 0x5a]

def cfgCmd (s : SecureCfg) : Config := ⟨true, false, false, false, some s⟩

/-- the binary is `[1,2,3]`; some other, harmless file is `[9]` -/
def extToy : Ext := ⟨toyHash, .data [1, 2, 3], .data [9], true⟩

/-- the right checksum of `[1,2,3]` and a wrong one (last bit flipped) -/
def sumGood : Bytes := [3, 0, 6, 0x5a]
def sumBad : Bytes := [3, 0, 6, 0x5b]

/-- With the check placed after the runner's start, a wrong checksum still launches the binary
(and `Start` reports the mismatch too late). -/
theorem check_after_launch_witness :
    startSecure ⟨true, false, true, true, true⟩ (cfgCmd ⟨sumBad, false, []⟩) extToy =
      ⟨.err .checksumsDoNotMatch, [.launch, .check (.ok false)]⟩ := by decide

/-- With a `!ok` arm that does not return, a wrong checksum launches the binary. -/
theorem mismatch_not_returned_witness :
    (startSecure ⟨true, true, true, false, true⟩ (cfgCmd ⟨sumBad, false, []⟩) extToy).launched = true := by decide

/-- With an `err != nil` arm that does not return, an empty checksum (or a nil hash, or an
unreadable file) launches the binary. -/
theorem err_not_returned_witness :
    (startSecure ⟨true, true, false, true, true⟩ (cfgCmd ⟨[], false, []⟩) extToy).launched = true ∧
    (startSecure ⟨true, true, false, true, true⟩ (cfgCmd ⟨sumGood, true, []⟩) extToy).launched = true := by decide

/-- Checking another path than the one executed: the other file's checksum launches this binary. -/
theorem other_path_witness :
    (startSecure ⟨true, true, true, true, false⟩ (cfgCmd ⟨toyHash [9], false, []⟩) extToy).launched = true ∧
    toyHash [9] ≠ toyHash [1, 2, 3] := by decide

/-- Without the Reattach guard a client with a `SecureConfig` attaches to a process that was never checked. -/
theorem no_reattach_guard_witness :
    startSecure ⟨false, true, true, true, true⟩ ⟨false, true, false, false, some ⟨sumBad, false, []⟩⟩ extToy =
      ⟨.reattached, []⟩ := by decide

/-- Outside the property's quantifier (recorded assumption): `Check` does not `Reset` the hasher,
so a second `Check` with the same `SecureConfig` hashes the concatenation of both reads — the
matching file is answered `true`, then `false`. -/
theorem reuse_hashes_concatenation (h : Bytes → Bytes) (s : SecureCfg) (b : Bytes)
    (h0 : s.checksum ≠ []) (hn : s.hashNil = false) (hw : s.written = []) :
    check h (afterCheck s (.data b)) (.data b) = .ok (constantTimeCompare (h (b ++ b)) s.checksum == 1) := by
  simp [check, afterCheck, h0, hn, hw]

theorem reuse_witness :
    check toyHash ⟨sumGood, false, []⟩ (.data [1, 2, 3]) = .ok true ∧
    check toyHash (afterCheck ⟨sumGood, false, []⟩ (.data [1, 2, 3])) (.data [1, 2, 3]) = .ok false := by decide

example : (⟨true, true, true, true, true⟩ : Params).Good := by decide

/-- the matching checksum launches … -/
example : startSecure ⟨true, true, true, true, true⟩ (cfgCmd ⟨sumGood, false, []⟩) extToy =
    ⟨.proceeded, [.check (.ok true), .launch]⟩ := by decide

/-- … one flipped bit, a proper prefix, an extension, the empty checksum and a nil hash do not -/
example : startSecure ⟨true, true, true, true, true⟩ (cfgCmd ⟨sumBad, false, []⟩) extToy =
    ⟨.err .checksumsDoNotMatch, [.check (.ok false)]⟩ := by decide
example : startSecure ⟨true, true, true, true, true⟩ (cfgCmd ⟨[3, 0, 6], false, []⟩) extToy =
    ⟨.err .checksumsDoNotMatch, [.check (.ok false)]⟩ := by decide
example : startSecure ⟨true, true, true, true, true⟩ (cfgCmd ⟨[3, 0, 6, 0x5a, 0], false, []⟩) extToy =
    ⟨.err .checksumsDoNotMatch, [.check (.ok false)]⟩ := by decide
example : startSecure ⟨true, true, true, true, true⟩ (cfgCmd ⟨[], false, []⟩) extToy =
    ⟨.err (.verifying .noChecksum), [.check (.err .noChecksum)]⟩ := by decide
example : startSecure ⟨true, true, true, true, true⟩ (cfgCmd ⟨sumGood, true, []⟩) extToy =
    ⟨.err (.verifying .noHash), [.check (.err .noHash)]⟩ := by decide
example : startSecure ⟨true, true, true, true, true⟩ (cfgCmd ⟨sumGood, false, []⟩) { extToy with file := .openErr } =
    ⟨.err (.verifying .open), [.check (.err .open)]⟩ := by decide

/-- hypotheses of `launch_iff_match` / `mismatch_err` are satisfiable -/
example : Launching (cfgCmd ⟨sumGood, false, []⟩) ∧ Matches ⟨sumGood, false, []⟩ extToy := by
  refine ⟨⟨rfl, by decide⟩, by decide, rfl, [1, 2, 3], rfl, by decide⟩
example : extToy.hash [1, 2, 3] ≠ sumBad := by decide

/-- the comparator on concrete bytes: equal, one bit off, prefix, extension, both empty -/
example : constantTimeCompare [1, 2, 255] [1, 2, 255] = 1 ∧ constantTimeCompare [1, 2, 255] [1, 2, 254] = 0 ∧
    constantTimeCompare [1, 2, 255] [1, 2] = 0 ∧ constantTimeCompare [1, 2] [1, 2, 255] = 0 ∧
    constantTimeCompare [] [] = 1 := by decide

/-! ### `Check` itself (`CheckParams`): what is hashed, on which attempt, against which checksum -/

/-- **Every byte of the executable is hashed**: what reaches the hasher is the file's whole content, whatever its size. -/
theorem whole_file_hashed (C : CheckParams) (hC : C.Good) (b : Bytes) : hashedPart C b = b := by
  simp [hashedPart, hC.wholeFile]

/-- Witness: with a read limit, two executables that differ only beyond the limit are indistinguishable to `Check` — a
payload appended past the limit runs unverified -/
theorem read_limit_witness : hashedPart ⟨false, 4, true, true⟩ [1, 2, 3, 4, 5] = hashedPart ⟨false, 4, true, true⟩ [1, 2, 3, 4, 66, 77] := by decide

/-- **Every `Start` verifies**: a client that was refused is verified again when it is asked again — no attempt launches
without the check. -/
theorem every_attempt_verifies (C : CheckParams) (hC : C.Good) (attempt : Nat) : verifiesOnAttempt C attempt = true := by
  simp [verifiesOnAttempt, hC.everyStart]

/-- Witness: a "checked once" flag set before the verdict lets the second `Start` through unverified -/
theorem checked_once_witness : verifiesOnAttempt ⟨true, 0, false, true⟩ 1 = false := by decide

/-- **The configured checksum is the one compared**: whatever rewriting a writer to `SecureConfig.Checksum` would apply,
`Check` sees the caller's bytes. -/
theorem given_checksum_compared (C : CheckParams) (hC : C.Good) (norm : Bytes → Bytes) (given : Bytes) :
    comparedSum C norm given = given := by
  simp [comparedSum, hC.checksumAsGiven]

/-- Witness: with a writer that decodes "text" forms (here: keeps every second byte), a checksum twice as long as the
digest and different from it is compared as if it were the digest -/
theorem normalised_checksum_witness :
    comparedSum ⟨true, 0, true, false⟩ (fun b => (b.zipIdx.filter (fun x => x.2 % 2 == 1)).map (·.1)) [0, 7, 0, 9] = [7, 9] := by decide

/-- **Anything around the true digest is rejected** — a line terminator left by a checksum file included: a checksum
that is the file's digest with bytes put before or after it never verifies. -/
theorem padded_checksum_rejected (h : Bytes → Bytes) (s : SecureCfg) (b pre suf : Bytes)
    (hp : pre ++ suf ≠ []) (hs : s.checksum = pre ++ h (s.written ++ b) ++ suf) :
    check h s (.data b) ≠ .ok true := by
  intro hc
  obtain ⟨_, _, b', hb, heq⟩ := (check_true_iff h s (.data b)).1 hc
  cases hb
  rw [hs] at heq
  have hl := congrArg List.length heq
  simp only [List.length_append] at hl
  have h1 : pre = [] := List.eq_nil_of_length_eq_zero (by omega)
  have h2 : suf = [] := List.eq_nil_of_length_eq_zero (by omega)
  simp [h1, h2] at hp

/-- Witness: a `Check` that trims trailing CR/LF from a local copy of the checksum compares `[7, 9]` when `[7, 9, 13, 10]`
was configured (and would reject a true digest that happens to end in 0x0a) -/
theorem trimmed_checksum_witness :
    comparedSum ⟨true, 0, true, false⟩ (fun b => (b.reverse.dropWhile (fun x => x == 10 || x == 13)).reverse) [7, 9, 13, 10] = [7, 9] ∧
    comparedSum ⟨true, 0, true, false⟩ (fun b => (b.reverse.dropWhile (fun x => x == 10 || x == 13)).reverse) [7, 10] ≠ [7, 10] := by decide

/-- non-vacuity of `padded_checksum_rejected`: the digest `[7, 9]` followed by a newline -/
example : check (fun _ => [7, 9]) ⟨[7, 9, 10], false, []⟩ (.data [1]) = .ok false ∧
    check (fun _ => [7, 9]) ⟨[7, 9], false, []⟩ (.data [1]) = .ok true := by decide

end GoPlugin.Props.C13
