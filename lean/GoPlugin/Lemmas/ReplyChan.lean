import GoPlugin.Model.ReplyChan
import GoPlugin.Lemmas.Run
/-
Invariants of the reply-channel protocol (`Model/ReplyChan.lean`) and their preservation
by every event.  Used by Props/C20.lean.
-/
namespace GoPlugin.ReplyChan

theorem isRun (P : Params) : IsRun (step P) (runFrom P) :=
  ⟨fun _ => rfl, fun s e es => by simp only [runFrom]; cases step P s e <;> rfl⟩

theorem reachable_induction {P : Params} {Inv : State → Prop} (h0 : Inv init)
    (hstep : ∀ s e s', Inv s → step P s e = some s' → Inv s') : ∀ s, Reachable P s → Inv s :=
  fun _ ⟨_, hes⟩ => (isRun P).invariant hstep h0 hes

theorem Params.Good.sendWaitsForReply {P : Params} (h : P.Good) : P.sendWaitsForReply = true := h.1
theorem Params.Good.workerRepliesOnce {P : Params} (h : P.Good) : P.workerRepliesOnce = true := h.2

/-- Under the good facts: nothing panicked; a closed reply channel belongs to a `Send` that has
returned; a request the stream goroutine holds belongs to a `Send` that is at its receive. -/
structure Inv (s : State) : Prop where
  noPanic : s.panicked = false
  closedRet : ∀ i, s.closed i = true → s.pc i = .returned
  holding : ∀ i, s.worker = .holding i → s.pc i = .waiting
  noAgain : ∀ i, s.worker ≠ .again i

theorem inv_init : Inv init := by
  constructor <;> simp [init]

/-- the request held is that of a `Send` at its receive, whose channel is therefore open -/
theorem Inv.holding_open {s : State} (h : Inv s) {i : Nat} (hw : s.worker = .holding i) :
    s.pc i = .waiting ∧ s.closed i = false :=
  have hpc := h.holding i hw
  ⟨hpc, Bool.eq_false_iff.2 fun hc => nomatch hpc.symm.trans (h.closedRet i hc)⟩

private theorem closedRet_return {P : Params} {s : State} {i : Nat} (h : ∀ j, s.closed j = true → s.pc j = .returned) :
    ∀ j, (returnSend P s i).closed j = true → (returnSend P s i).pc j = .returned := by
  intro j hj
  by_cases hji : j = i
  · subst hji; simp [returnSend, upd]
  · simp only [returnSend, upd, hji, if_false] at hj ⊢; exact h j hj

/- The branches of `step` (`fun_cases`): 1 `call`, 3 `quitArm`, 5 `take`, 7 `reply` to the request held, 8 `reply` once
more, 10 `giveUp`, 12 `close`, 13 `workerQuit`; 2, 4, 6, 9, 11, 14 are the disabled ones. -/

theorem inv_step (P : Params) (hG : P.Good) (s : State) (e : Event) (s' : State) (hi : Inv s)
    (hs : step P s e = some s') : Inv s' := by
  have ⟨hNoPanic, hClosedRet, hHolding, hNoAgain⟩ := hi
  revert hs
  fun_cases step P s e <;> intro hs
  case case1 i hpc =>
    cases hs
    exact ⟨hNoPanic, fun j hj => upd_keep (hClosedRet j hj) (by rw [hpc]; nofun),
      fun j hj => upd_keep (hHolding j hj) (by rw [hpc]; nofun), hNoAgain⟩
  case case3 i hc =>
    obtain ⟨hpc, -⟩ := hc
    cases hs
    exact ⟨hNoPanic, closedRet_return hClosedRet, fun j hj => upd_keep (hHolding j hj) (by rw [hpc]; nofun), hNoAgain⟩
  case case5 i hc =>
    obtain ⟨hpc, -⟩ := hc
    cases hs
    exact ⟨hNoPanic, fun j hj => upd_keep (hClosedRet j hj) (by rw [hpc]; nofun),
      fun j hj => by cases hj; exact if_pos rfl, nofun⟩
  case case7 i hwk =>
    -- the reply is a rendezvous
    obtain ⟨hpc, hcl⟩ := hi.holding_open hwk
    rw [sendReply, if_neg (Bool.eq_false_iff.1 hcl), if_pos hpc, if_pos hG.workerRepliesOnce] at hs
    cases hs
    exact ⟨hNoPanic, closedRet_return hClosedRet, nofun, nofun⟩
  case case8 i hwk => exact absurd hwk (hNoAgain i)
  case case10 i hc => rw [hG.sendWaitsForReply] at hc; cases hc.1
  case case12 => cases hs; exact ⟨hNoPanic, hClosedRet, hHolding, hNoAgain⟩
  case case13 => cases hs; exact ⟨hNoPanic, hClosedRet, nofun, nofun⟩
  case case2 | case4 | case6 | case9 | case11 | case14 => cases hs

theorem inv_reachable (P : Params) (hG : P.Good) (s : State) (h : Reachable P s) : Inv s :=
  reachable_induction (P := P) inv_init (fun s e s' hi hs => inv_step P hG s e s' hi hs) s h

/-- For EVERY tree: a reply channel is closed at most once, and only by a `Send` that has returned. -/
structure CInv (s : State) : Prop where
  le : ∀ i, s.closes i ≤ 1
  ret : ∀ i, s.closes i = 1 → s.pc i = .returned

theorem cinv_init : CInv init := by
  constructor <;> simp [init]

private theorem cinv_return (P : Params) (s : State) (i : Nat) (hi : CInv s) (hpc : s.pc i ≠ .returned) :
    CInv (returnSend P s i) := by
  obtain ⟨hLe, hRet⟩ := hi
  have h0 : s.closes i = 0 := by
    have := hLe i
    have hne : s.closes i ≠ 1 := fun h => hpc (hRet i h)
    omega
  constructor
  · intro j
    by_cases hji : j = i
    · subst hji; simp only [returnSend, upd, if_true, h0]; split <;> omega
    · simp only [returnSend, upd, hji, if_false]; exact hLe j
  · intro j hj
    by_cases hji : j = i
    · subst hji; simp [returnSend, upd]
    · simp only [returnSend, upd, hji, if_false] at hj ⊢; exact hRet j hj

theorem cinv_step (P : Params) (s : State) (e : Event) (s' : State) (hi : CInv s)
    (hs : step P s e = some s') : CInv s' := by
  have move : ∀ i v, s.pc i ≠ .returned → CInv { s with pc := upd s.pc i v } :=
    fun i v hne => ⟨hi.le, fun j hj => upd_keep (hi.ret j hj) hne⟩
  have reply : ∀ i next, sendReply P s i next = some s' → CInv s' := by
    intro i next h
    revert h
    fun_cases sendReply P s i next <;> intro h <;> cases h
    -- `{ h with }`: the new state has the `closes` and `pc` of the old one, and `CInv` reads nothing else
    · exact { hi with }
    · next hpc => exact { cinv_return P s i hi (by rw [hpc]; nofun) with }
  revert hs
  fun_cases step P s e <;> intro hs
  case case1 i hpc => cases hs; exact move i _ (by rw [hpc]; nofun)
  case case3 i hc =>
    obtain ⟨hpc, -⟩ := hc
    cases hs; exact cinv_return P s i hi (by rw [hpc]; nofun)
  case case5 i hc =>
    obtain ⟨hpc, -⟩ := hc
    cases hs; exact { move i .waiting (by rw [hpc]; nofun) with }
  case case7 | case8 => exact reply _ _ hs
  case case10 i hc =>
    obtain ⟨-, hpc, -⟩ := hc
    cases hs; exact cinv_return P s i hi (by rw [hpc]; nofun)
  case case12 | case13 => cases hs; exact { hi with }
  case case2 | case4 | case6 | case9 | case11 | case14 => cases hs

theorem cinv_reachable (P : Params) (s : State) (h : Reachable P s) : CInv s :=
  reachable_induction (P := P) cinv_init (fun s e s' hi hs => cinv_step P s e s' hi hs) s h

end GoPlugin.ReplyChan
