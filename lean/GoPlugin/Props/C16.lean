import GoPlugin.Model.Serve
import GoPlugin.Props.C01
import GoPlugin.Lemmas.Bytes
/-
C16 — Plugin serves only with the right cookie; announces one well-formed line.

Property theorems, the lemmas they rest on, witnesses and examples.  Quantifiers: every configured cookie key/value, every
environment (`os.Getenv` as an arbitrary function), every negotiated version,
listener address, protocol, certificate and value of the multiplexing variable;
for the `serve` theorems every structural-fact record `P` with `Params.Good`;
for the round trip every client configuration and every behaviour of the
resolvers / translator / certificate parser.
-/
namespace GoPlugin.Serve.Params.Good
variable {P : Params} (h : P.Good)
include h
private theorem order : P.order = [.cookieGate, .listen, .init, .print, .swapStdout, .accept] := h.1
private theorem gateEmptyTest : P.gateEmptyTest = true := h.2.1
private theorem gateCompareNeq : P.gateCompareNeq = true := h.2.2.1
private theorem gateExitCode : P.gateExitCode = 1 := h.2.2.2.1
private theorem deferredExit : P.deferredExit = true := h.2.2.2.2.1
private theorem lineFmt : P.lineFmt = goodLineFmt := h.2.2.2.2.2.1
private theorem lineArgs : P.lineArgs = [.core, .app, .network, .address, .proto, .cert] := h.2.2.2.2.2.2.1
private theorem muxFmt : P.muxFmt = goodMuxFmt := h.2.2.2.2.2.2.2.1
private theorem muxArgTrue : P.muxArgTrue = true := h.2.2.2.2.2.2.2.2.1
private theorem muxConditional : P.muxConditional = true := h.2.2.2.2.2.2.2.2.2.1
private theorem outFmt : P.outFmt = goodOutFmt := h.2.2.2.2.2.2.2.2.2.2.1
private theorem coreVersion : P.coreVersion = 1 := h.2.2.2.2.2.2.2.2.2.2.2
end GoPlugin.Serve.Params.Good

namespace GoPlugin.Props.C16
open Go Serve

/-- **The gate opens exactly for a configured, exactly matching cookie.** -/
theorem gate_iff (key val : Bytes) (env : Bytes → Bytes) :
    gate key val env = .proceed ↔ key ≠ [] ∧ val ≠ [] ∧ env key = val := by
  unfold gate
  -- both sides are decided by the three tests
  by_cases hk : key = [] <;> by_cases hv : val = [] <;> by_cases he : env key = val <;> simp [hk, hv, he]

private theorem gate_exit_iff (key val : Bytes) (env : Bytes → Bytes) :
    gate key val env = .exit1 ↔ key = [] ∨ val = [] ∨ env key ≠ val := by
  -- the gate has two outcomes: it exits exactly when it does not proceed
  have hne : gate key val env = .exit1 ↔ ¬ gate key val env = .proceed := by cases gate key val env <;> simp
  rw [hne, gate_iff]
  simp only [ne_eq, Classical.not_and_iff_not_or_not, Classical.not_not]

/-- The variable is unset (or set to the empty string): exit 1, whatever is configured. -/
theorem gate_unset (key val : Bytes) (env : Bytes → Bytes) (h : env key = []) :
    gate key val env = .exit1 := by
  rw [gate_exit_iff]
  by_cases hv : val = []
  · exact Or.inr (Or.inl hv)
  · exact Or.inr (Or.inr (by rw [h]; exact fun e => hv e.symm))

theorem gate_different (key val : Bytes) (env : Bytes → Bytes) (h : env key ≠ val) :
    gate key val env = .exit1 :=
  (gate_exit_iff key val env).2 (Or.inr (Or.inr h))

/-- A proper prefix of the expected value: exit 1. -/
theorem gate_prefix (key val : Bytes) (env : Bytes → Bytes) (more : Bytes) (hm : more ≠ [])
    (h : val = env key ++ more) : gate key val env = .exit1 := by
  exact gate_different key val env fun e => hm (List.self_eq_append_right.1 (e ▸ h))

/-- The expected value with something appended (the expected value is a proper prefix): exit 1. -/
theorem gate_extended (key val : Bytes) (env : Bytes → Bytes) (more : Bytes) (hm : more ≠ [])
    (h : env key = val ++ more) : gate key val env = .exit1 := by
  exact gate_different key val env fun e => hm (List.append_right_eq_self.1 (h ▸ e))

/-- A proper suffix of the expected value: exit 1. -/
theorem gate_suffix (key val : Bytes) (env : Bytes → Bytes) (more : Bytes) (hm : more ≠ [])
    (h : val = more ++ env key) : gate key val env = .exit1 := by
  exact gate_different key val env fun e => hm (List.self_eq_append_left.1 (e ▸ h))

/-- ASCII upper-casing of one byte (`a`–`z` ↦ `A`–`Z`). -/
def upper (c : UInt8) : UInt8 := if 97 ≤ c.toNat ∧ c.toNat ≤ 122 then UInt8.ofNat (c.toNat - 32) else c

/-- The expected value with its letters upper-cased (and it has a lower-case letter): exit 1 —
the comparison is case-sensitive. -/
theorem gate_case_changed (key val : Bytes) (env : Bytes → Bytes)
    (hl : ∃ c ∈ val, 97 ≤ c.toNat ∧ c.toNat ≤ 122) (h : env key = val.map upper) :
    gate key val env = .exit1 := by
  apply gate_different
  rw [h]
  obtain ⟨c, hc, hlo, hhi⟩ := hl
  intro e
  -- a list that `map upper` leaves alone has `upper` fixing each byte, but `c` moves down by 32
  have hu : upper c = c := List.map_inj_left.1 (e.trans (List.map_id val).symm) c hc
  unfold upper at hu
  simp only [hlo, hhi, and_self, if_true] at hu
  have := congrArg UInt8.toNat hu
  rw [UInt8.toNat_ofNat'] at this
  omega

/-- A plugin configured without a key or without a value never serves, whatever the environment. -/
theorem gate_misconfigured (key val : Bytes) (env : Bytes → Bytes) (h : key = [] ∨ val = []) :
    gate key val env = .exit1 := by
  rw [gate_exit_iff]
  rcases h with h | h
  · exact Or.inl h
  · exact Or.inr (Or.inl h)

/-- **The fields a `strings.Split(line, "|")` sees are exactly what was printed**,
provided no printed string contains `|` (the integers never do). -/
theorem fields_are_what_was_printed (coreVer appVer : Int) (net addr proto cert muxEnv : Bytes)
    (hn : bar ∉ net) (ha : bar ∉ addr) (hp : bar ∉ proto) (hc : bar ∉ cert) :
    split bar (serveLine coreVer appVer net addr proto cert muxEnv)
      = [itoa coreVer, itoa appVer, net, addr, proto, cert] ++ (if muxEnv ≠ [] then [sTrue] else []) := by
  have h1 : bar ∉ itoa coreVer := not_mem_itoa coreVer bar (by decide) (by decide)
  have h2 : bar ∉ itoa appVer := not_mem_itoa appVer bar (by decide) (by decide)
  have hT : bar ∉ sTrue := by decide
  unfold serveLine
  by_cases hm : muxEnv = []
  · simp only [hm, ne_eq, not_true_eq_false, if_false, List.append_nil]
    exact split_join bar _ (by simp) (by simp [h1, h2, hn, ha, hp, hc])
  · simp only [ne_eq, hm, not_false_eq_true, if_true]
    rw [← join_concat bar _ (by simp)]
    exact split_join bar _ (by simp) (by simp [h1, h2, hn, ha, hp, hc, hT])

/-- **Exactly six fields — seven only when the host set the multiplexing variable.** -/
theorem line_field_count (coreVer appVer : Int) (net addr proto cert muxEnv : Bytes)
    (hn : bar ∉ net) (ha : bar ∉ addr) (hp : bar ∉ proto) (hc : bar ∉ cert) :
    (split bar (serveLine coreVer appVer net addr proto cert muxEnv)).length
      = if muxEnv ≠ [] then 7 else 6 := by
  rw [fields_are_what_was_printed coreVer appVer net addr proto cert muxEnv hn ha hp hc]
  by_cases hm : muxEnv = [] <;> simp [hm]

/-- The raw standard base64 alphabet (`base64.RawStdEncoding`: no padding). -/
def isB64 (c : UInt8) : Bool :=
  (65 ≤ c.toNat && c.toNat ≤ 90) || (97 ≤ c.toNat && c.toNat ≤ 122) || (48 ≤ c.toNat && c.toNat ≤ 57)
    || c.toNat = 43 || c.toNat = 47

/-- The alphabet lies between `+` and `z`. -/
private theorem isB64_range {c : UInt8} (h : isB64 c = true) : 43 ≤ c.toNat ∧ c.toNat ≤ 122 := by
  simp only [isB64, Bool.or_eq_true, Bool.and_eq_true, decide_eq_true_eq] at h
  omega

/-- A base64 byte is ASCII, not white space, not `|`, not a newline. -/
private theorem b64_byte (c : UInt8) (h : isB64 c = true) :
    c ≠ bar ∧ c ≠ nl ∧ c < 128 ∧ isAsciiSpace c = false := by
  obtain ⟨lo, hi⟩ := isB64_range h
  refine ⟨?_, ?_, UInt8.lt_iff_toNat_lt.2 (Nat.lt_of_le_of_lt hi (by decide)), isAsciiSpace_of_gt (by omega)⟩
  · intro e; subst e; exact absurd hi (by decide)
  · intro e; subst e; exact absurd lo (by decide)

private theorem bar_not_mem_b64 {cert : Bytes} (hc : ∀ c ∈ cert, isB64 c = true) : bar ∉ cert := by
  intro hmem
  obtain ⟨hNotBar, -⟩ := b64_byte bar (hc bar hmem)
  exact hNotBar rfl

/-- What `Serve` really prints satisfies the `|`-freeness hypotheses, given only `'|' ∉ addr`:
the network is `tcp`/`unix`, the protocol `netrpc`/`grpc`, the certificate raw base64. -/
theorem line_field_count_serve (appVer : Int) (net addr proto cert muxEnv : Bytes)
    (hn : net = Handshake.sTcp ∨ net = Handshake.sUnix)
    (hp : proto = Handshake.sNetrpc ∨ proto = Handshake.sGrpc)
    (hc : ∀ c ∈ cert, isB64 c = true) (ha : bar ∉ addr) :
    (split bar (serveLine 1 appVer net addr proto cert muxEnv)).length = if muxEnv ≠ [] then 7 else 6 := by
  apply line_field_count
  · rcases hn with rfl | rfl <;> decide
  · exact ha
  · rcases hp with rfl | rfl <;> decide
  · exact bar_not_mem_b64 hc

private theorem serveLine_head (appVer : Int) (net addr proto cert muxEnv : Bytes) :
    (serveLine 1 appVer net addr proto cert muxEnv).head? = some 49 := by
  have h1 : itoa 1 = [49] := by decide
  unfold serveLine
  by_cases hm : muxEnv = [] <;> simp [hm, join, h1]

private theorem getLast?_append_cons {α} (l : List α) (x : α) (l' : List α) :
    (l ++ x :: l').getLast? = some ((l'.getLast?).getD x) := by
  rw [List.getLast?_append, List.getLast?_cons]; rfl

/-- The last byte of the line: `e` of `true`, else the `|` before an empty certificate, else the certificate's last byte. -/
private theorem serveLine_last (coreVer appVer : Int) (net addr proto cert muxEnv : Bytes) :
    ∃ z, (serveLine coreVer appVer net addr proto cert muxEnv).getLast? = some z ∧
      (z = 101 ∨ z = bar ∨ cert.getLast? = some z) := by
  unfold serveLine
  by_cases hm : muxEnv = []
  · rw [if_neg (not_not_intro hm)]
    show ∃ z, (join bar ([itoa coreVer, itoa appVer, net, addr, proto] ++ [cert])).getLast? = some z ∧ _
    rw [join_concat bar _ (by simp), getLast?_append_cons]
    cases cert.getLast? with
    | none => exact ⟨bar, rfl, Or.inr (Or.inl rfl)⟩
    | some y => exact ⟨y, rfl, Or.inr (Or.inr rfl)⟩
  · rw [if_pos hm, getLast?_append_cons]
    exact ⟨101, rfl, Or.inl rfl⟩

private theorem trimSpace_serveLine (appVer : Int) (net addr proto cert muxEnv : Bytes)
    (hcl : ∀ z, cert.getLast? = some z → z < 128 ∧ isAsciiSpace z = false) :
    trimSpace (serveLine 1 appVer net addr proto cert muxEnv) = serveLine 1 appVer net addr proto cert muxEnv := by
  obtain ⟨z, hlast, hz⟩ := serveLine_last 1 appVer net addr proto cert muxEnv
  have ⟨hlt, hsp⟩ : z < 128 ∧ isAsciiSpace z = false := by
    rcases hz with rfl | rfl | hz
    · decide
    · decide
    · exact hcl z hz
  exact trimSpace_eq_self _ 49 z (serveLine_head ..) hlast (by decide) (by decide) hlt hsp

/-- **What the host's parser makes of a printed line**: `TrimSpace`, `Split` and the two `Atoi`s undo `Serve`'s printing,
so `parseLine` on a printed line is the offered-version test, the address translation and `afterAddr`'s field checks on
the printed fields. -/
theorem parseLine_serveLine (P : Handshake.Params) (hP : P.Good) (hc : Handshake.HostCfg) (e : Handshake.Ext)
    (ver : Int) (net addr proto cert muxEnv : Bytes)
    (hlo : -(2:Int)^63 ≤ ver) (hhi : ver < (2:Int)^63)
    (hn : bar ∉ net) (ha : bar ∉ addr) (hp : bar ∉ proto) (hcb : bar ∉ cert)
    (hcl : ∀ z, cert.getLast? = some z → z < 128 ∧ isAsciiSpace z = false) :
    Handshake.parseLine P hc e (serveLine 1 ver net addr proto cert muxEnv) =
      if ver ∉ hc.versions then .err .versionIncompatible else
      match e.translate net addr with
      | none => .err .translate
      | some (net', addr') =>
        match Handshake.resolve e net' addr' with
        | none => .err .address
        | some a => Handshake.afterAddr P hc e ([proto, cert] ++ (if muxEnv ≠ [] then [sTrue] else [])) ver (some a) := by
  refine Handshake.parseLine_of_fields P hP hc e _ (itoa 1) (itoa ver) net addr _ ver ?_
    (atoi_itoa 1 (by decide) (by decide)) (atoi_itoa ver hlo hhi)
  rw [trimSpace_serveLine ver net addr proto cert muxEnv hcl]
  -- `Handshake.bar` and `Serve.bar` are the same byte, defined once in each model
  exact fields_are_what_was_printed 1 ver net addr proto cert muxEnv hn ha hp hcb

/-- **Print/parse round trip.**  The line `Serve` prints for application version
`ver`, listener `(net, addr)`, protocol `proto`, certificate `cert` and
multiplexing variable `muxEnv` is accepted by `Client.Start` — with exactly the
resolved address, the printed protocol and the printed version — whenever

* the client-side structural facts are good (`P.Good`; core protocol version 1),
* `ver` is an `int64` (Go's `int`) the client offers and `proto` is in its allowed list,
* the runner translation and the resolver succeed on the printed `(net, addr)`,
* no printed string contains `|`, and the certificate does not end in a
  non-ASCII or white-space byte (it is raw base64, see `b64_byte`),
* the certificate is empty, or it parses and the client has a TLS configuration,
* a client that insists on multiplexing over gRPC had set the variable. -/
theorem print_parse_roundtrip (P : Handshake.Params) (hP : P.Good) (hc : Handshake.HostCfg) (e : Handshake.Ext)
    (ver : Int) (net addr proto cert muxEnv : Bytes) (net' addr' : Bytes) (a : Handshake.Addr)
    (hlo : -(2:Int)^63 ≤ ver) (hhi : ver < (2:Int)^63)
    (hoffer : ver ∈ hc.versions) (hallow : proto ∈ hc.allowed)
    (htr : e.translate net addr = some (net', addr'))
    (hres : Handshake.resolve e net' addr' = some a)
    (hn : bar ∉ net) (ha : bar ∉ addr) (hp : bar ∉ proto) (hcb : bar ∉ cert)
    (hcl : ∀ z, cert.getLast? = some z → z < 128 ∧ isAsciiSpace z = false)
    (hcert : cert = [] ∨ (e.certParses cert = true ∧ hc.hasTls = true))
    (hmux : hc.mux = true → proto = Handshake.sGrpc → muxEnv ≠ []) :
    Handshake.start P hc e (.line (serveLine 1 ver net addr proto cert muxEnv)) = .ok a proto ver := by
  have hm : ¬ ((hc.mux = true ∧ proto = Handshake.sGrpc) ∧ muxEnv = []) := fun ⟨⟨h1, h2⟩, h3⟩ => hmux h1 h2 h3
  simp only [Handshake.start, Handshake.body,
    parseLine_serveLine P hP hc e ver net addr proto cert muxEnv hlo hhi hn ha hp hcb hcl, Handshake.afterAddr,
    List.cons_append, List.nil_append, Handshake.certCheck_pass P hP.certNilGuard hc e proto cert _ hcert, Handshake.muxCheck_printed]
  simp [hoffer, htr, hres, Handshake.protoOf, hallow, hm, Handshake.deferred]

/-- The same with the certificate hypothesis in the form `Serve` guarantees:
raw base64 text (`base64.RawStdEncoding.EncodeToString`). -/
theorem print_parse_roundtrip_b64 (P : Handshake.Params) (hP : P.Good) (hc : Handshake.HostCfg) (e : Handshake.Ext)
    (ver : Int) (net addr proto cert muxEnv : Bytes) (net' addr' : Bytes) (a : Handshake.Addr)
    (hlo : -(2:Int)^63 ≤ ver) (hhi : ver < (2:Int)^63)
    (hoffer : ver ∈ hc.versions) (hallow : proto ∈ hc.allowed)
    (htr : e.translate net addr = some (net', addr'))
    (hres : Handshake.resolve e net' addr' = some a)
    (hn : bar ∉ net) (ha : bar ∉ addr) (hp : bar ∉ proto)
    (hb64 : ∀ c ∈ cert, isB64 c = true)
    (hcert : cert = [] ∨ (e.certParses cert = true ∧ hc.hasTls = true))
    (hmux : hc.mux = true → proto = Handshake.sGrpc → muxEnv ≠ []) :
    Handshake.start P hc e (.line (serveLine 1 ver net addr proto cert muxEnv)) = .ok a proto ver := by
  apply print_parse_roundtrip P hP hc e ver net addr proto cert muxEnv net' addr' a hlo hhi hoffer hallow
    htr hres hn ha hp _ _ hcert hmux
  · exact bar_not_mem_b64 hb64
  · intro z hz
    have hzmem : z ∈ cert := List.mem_of_getLast? hz
    obtain ⟨-, -, hAscii, hNoSpace⟩ := b64_byte z (hb64 z hzmem)
    exact ⟨hAscii, hNoSpace⟩

private theorem gateP_eq_gate (P : Params) (hP : P.Good) (L : Launch) : gateP P L = gate L.key L.val L.env := by
  -- with both tests present the two definitions differ only in Bool versus Prop
  simp [gateP, gate, hP.gateEmptyTest, hP.gateCompareNeq]

private theorem printedP_eq (P : Params) (hP : P.Good) (L : Launch) :
    printedP P L = serveLine 1 L.appVer L.net L.addr L.proto L.cert (L.env L.muxVar) ++ [nl] := by
  unfold printedP lineP serveLine
  rw [hP.lineFmt, hP.lineArgs, hP.muxFmt, hP.muxArgTrue, hP.muxConditional, hP.outFmt]
  by_cases hm : L.env L.muxVar = []
  · simp [hm, sprintf, goodLineFmt, goodOutFmt, argVal, hP.coreVersion, join, bar, nl]
  · simp [hm, sprintf, goodLineFmt, goodMuxFmt, goodOutFmt, argVal, hP.coreVersion, join, bar, nl, sTrue]

/-- **A refused launch does nothing but exit with status 1**: no listener, no byte on stdout. -/
theorem refused_exits_1_silently (P : Params) (hP : P.Good) (L : Launch)
    (h : gate L.key L.val L.env = .exit1) : serve P L = [.exit 1] := by
  have hg := gateP_eq_gate P hP L
  unfold serve
  rw [hP.order]
  simp [exec, hg, h, hP.gateExitCode, hP.deferredExit]

/-- **A served launch**: listener, init, then exactly one write to the real
stdout — the handshake line and a newline — then stdout is re-pointed and the
accept loop starts. -/
theorem served_trace (P : Params) (hP : P.Good) (L : Launch)
    (h : gate L.key L.val L.env = .proceed) :
    serve P L = [.listen, .init,
      .stdout (serveLine 1 L.appVer L.net L.addr L.proto L.cert (L.env L.muxVar) ++ [nl]),
      .swapStdout, .accept] := by
  have hg := gateP_eq_gate P hP L
  have hpr := printedP_eq P hP L
  unfold serve
  rw [hP.order]
  simp [exec, hg, h, hpr]

/-- **The process serves iff the cookie matches; it announces exactly one line, after the listener exists;
otherwise it writes nothing and opens nothing.** -/
theorem serve_summary (P : Params) (hP : P.Good) (L : Launch) :
    (gate L.key L.val L.env = .exit1 →
        realStdout (serve P L) = [] ∧ Ev.listen ∉ serve P L ∧ serve P L = [.exit 1]) ∧
    (gate L.key L.val L.env = .proceed →
        realStdout (serve P L) = serveLine 1 L.appVer L.net L.addr L.proto L.cert (L.env L.muxVar) ++ [nl] ∧
        Ev.listen ∈ beforeFirstStdout (serve P L) ∧ (∀ c, Ev.exit c ∉ serve P L)) := by
  constructor
  · intro h
    rw [refused_exits_1_silently P hP L h]
    simp [realStdout]
  · intro h
    rw [served_trace P hP L h]
    simp [realStdout, beforeFirstStdout]

/-! ### The structural facts matter: with a fact false the property fails (witnesses) -/

def goodParams : Params :=
  ⟨[.cookieGate, .listen, .init, .print, .swapStdout, .accept], true, true, 1, true,
   goodLineFmt, [.core, .app, .network, .address, .proto, .cert], goodMuxFmt, true, true, goodOutFmt, 1⟩

/-- key `K`, value `ab`; the environment holds `a` (a proper prefix) for every variable -/
def launchPrefix : Launch := ⟨[75], [97, 98], fun _ => [97], [77], 3, [116, 99, 112], [58, 49], [103, 114, 112, 99], [], ⟩

/-- the same with the right cookie and the mux variable unset -/
def launchGood : Launch :=
  ⟨[75], [97, 98], fun k => if k = [75] then [97, 98] else [], [77], 3, [116, 99, 112], [58, 49], [103, 114, 112, 99], []⟩

/-- Listener created before the gate: a refused launch has opened a socket. -/
theorem order_gate_witness :
    Ev.listen ∈ serve { goodParams with order := [.listen, .cookieGate, .init, .print, .swapStdout, .accept] } launchPrefix := by
  decide

/-- Line printed before the listener exists. -/
theorem order_print_witness :
    Ev.listen ∉ beforeFirstStdout (serve { goodParams with order := [.cookieGate, .print, .listen, .init, .swapStdout, .accept] } launchGood) := by
  decide

/-- Line printed after stdout was re-pointed: nothing reaches the real stdout. -/
theorem order_swap_witness :
    realStdout (serve { goodParams with order := [.cookieGate, .listen, .init, .swapStdout, .print, .accept] } launchGood) = [] := by
  decide

/-- A second write in `Serve`: more than one line on the real stdout. -/
theorem order_extra_print_witness :
    realStdout (serve { goodParams with order := [.cookieGate, .listen, .print, .init, .print, .swapStdout, .accept] } launchGood)
      ≠ serveLine 1 3 [116, 99, 112] [58, 49] [103, 114, 112, 99] [] [] ++ [nl] := by
  decide

/-- Without the comparison a prefix value is served. -/
theorem gate_compare_witness :
    serve { goodParams with gateCompareNeq := false } launchPrefix ≠ [.exit 1] := by decide

/-- Without the emptiness test a plugin configured with an empty value serves a host that leaves the variable unset. -/
theorem gate_empty_witness :
    serve { goodParams with gateEmptyTest := false } { launchGood with val := [], env := fun _ => [] } ≠ [.exit 1] := by
  decide

/-- A different exit code / no deferred `os.Exit`. -/
theorem gate_exit_witness :
    serve { goodParams with gateExitCode := 0 } launchPrefix ≠ [.exit 1] ∧
    serve { goodParams with deferredExit := false } launchPrefix ≠ [.exit 1] := by decide

/-- Seventh field printed unconditionally: seven fields for a host that did not ask. -/
theorem mux_unconditional_witness :
    (split bar (lineP { goodParams with muxConditional := false } launchGood)).length = 7 := by decide

/-- One verb fewer in the format: five fields. -/
theorem fmt_fields_witness :
    (split bar (lineP { goodParams with lineFmt := [37, 100, 124, 37, 100, 124, 37, 115, 124, 37, 115, 124, 37, 115] } launchGood)).length = 5 := by
  decide

/-- Operands in another order: the address is not in field 4. -/
theorem args_witness :
    (split bar (lineP { goodParams with lineArgs := [.core, .app, .address, .network, .proto, .cert] } launchGood))[3]? ≠ some [58, 49] := by
  decide

/-- No newline after the line: the host's scanner would wait for more. -/
theorem out_fmt_witness :
    printedP { goodParams with outFmt := [37, 115] } launchGood ≠ lineP goodParams launchGood ++ [nl] := by decide

example : goodParams.Good := by decide

/-- `K=ab` configured and set: proceeds.  `K=a`: exits. -/
example : gate [75] [97, 98] (fun _ => [97, 98]) = .proceed := by decide
example : gate [75] [97, 98] (fun _ => [97]) = .exit1 := gate_prefix _ _ _ [98] (by decide) (by decide)
example : gate [75] [97, 98] (fun _ => [97, 98, 99]) = .exit1 := gate_extended _ _ _ [99] (by decide) (by decide)
example : gate [75] [97, 98] (fun _ => [98]) = .exit1 := gate_suffix _ _ _ [97] (by decide) (by decide)
example : gate [75] [97, 98] (fun _ => [65, 66]) = .exit1 :=
  gate_case_changed _ _ _ ⟨97, by decide, by decide, by decide⟩ (by decide)

/-- `1|3|tcp|:1|grpc|` — six fields; with the variable set to `x`: `1|3|tcp|:1|grpc||true`, seven. -/
example : serveLine 1 3 [116, 99, 112] [58, 49] [103, 114, 112, 99] [] []
    = [49, 124, 51, 124, 116, 99, 112, 124, 58, 49, 124, 103, 114, 112, 99, 124] := by decide
example : (split bar (serveLine 1 3 [116, 99, 112] [58, 49] [103, 114, 112, 99] [] [])).length = 6 :=
  line_field_count (hn := by decide) (ha := by decide) (hp := by decide) (hc := by decide) ..
example : (split bar (serveLine 1 3 [116, 99, 112] [58, 49] [103, 114, 112, 99] [] [120])).length = 7 :=
  line_field_count (hn := by decide) (ha := by decide) (hp := by decide) (hc := by decide) ..

/-- The round trip's hypotheses are satisfiable: a gRPC client insisting on multiplexing, version −3, a base64 certificate. -/
example : Handshake.start ⟨true, true, 4, 50, 1, true, true, true⟩ ⟨[2, -3], [Handshake.sGrpc], true, true⟩ Props.C01.extAll
    (.line (serveLine 1 (-3) Handshake.sUnix [47, 116] Handshake.sGrpc [77, 73, 73, 66] [116])) =
    .ok ⟨Handshake.sUnix, [47, 116]⟩ Handshake.sGrpc (-3) :=
  print_parse_roundtrip_b64 _ (by decide) _ _ _ _ _ _ _ _ Handshake.sUnix [47, 116] _ (by decide) (by decide)
    (by decide) (by decide) rfl (by decide) (by decide) (by decide) (by decide) (by decide)
    (Or.inr ⟨rfl, rfl⟩) (fun _ _ => by decide)

example : serve goodParams launchGood =
    [.listen, .init, .stdout [49, 124, 51, 124, 116, 99, 112, 124, 58, 49, 124, 103, 114, 112, 99, 124, 10],
     .swapStdout, .accept] := by decide
example : serve goodParams launchPrefix = [.exit 1] := by decide

end GoPlugin.Props.C16
