import GoPlugin.Model.StdioConn
import GoPlugin.Lemmas.Run
/-
C11 over several host connections (net/rpc): nothing the plugin writes is lost to a connection that has gone, for every
history of connects, drops, writes and takes.
-/
namespace GoPlugin.Props.StdioConn
open GoPlugin StdioConn

def Inv (s : State) : Prop := s.lost = [] ∧ s.taken ++ s.pending = s.written

/- Branches of `step` (`fun_cases`) that return a state: 1 `connect`, 2 `drop`, 4 `write`, 6 `take` by a live
connection's copier, 8 `take` by the copier of a connection that has gone (the chunk is lost). -/
private theorem inv_step (P : Params) (hP : P.Good) (s s' : State) (e : Ev) (hi : Inv s) (hs : step P s e = some s') : Inv s' := by
  have hg : P.copierEndsWithConn = true := hP
  obtain ⟨hl, hw⟩ := hi
  revert hs
  fun_cases step P s e <;> intro hs <;> cases hs
  case case1 | case2 => exact ⟨hl, hw⟩
  case case4 b => exact ⟨hl, by rw [← hw]; exact (List.append_assoc ..).symm⟩
  case case6 c hc b rest hp halive =>
    -- the head of `pending` moves to the end of `taken`
    refine ⟨hl, ?_⟩
    rw [← hw, hp]
    exact List.append_assoc ..
  case case8 hgone => exact absurd hg hgone

private theorem isRun (P : Params) : IsRun (step P) (runFrom P) :=
  ⟨fun _ => rfl, fun s e es => by simp only [runFrom]; cases step P s e <;> rfl⟩

/-- **No output is lost to a connection that has gone**: after ANY history of host connections made and dropped, plugin
writes and copier activity, nothing was written to a dead connection's stream, and the chunks taken so far followed by
those still waiting are exactly what the plugin wrote, in its order — whatever is still waiting is there for the next
connection that is alive. -/
theorem nothing_lost_across_connections (P : Params) (hP : P.Good) (es : List Ev) (s : State)
    (hr : runFrom P init es = some s) : s.lost = [] ∧ s.taken ++ s.pending = s.written :=
  (isRun P).invariant (fun s e s' => inv_step P hP s s' e) (s := init) ⟨rfl, rfl⟩ hr

/-- non-vacuity: a first connection comes and goes, a second host attaches and receives what is written then -/
example : ∃ s, runFrom ⟨true⟩ init [.connect, .drop 0, .connect, .write 7, .take 1] = some s ∧
    s.delivered 1 = [7] ∧ s.lost = [] :=
  exists_some_of_any (by decide)

/-- Witness (the former defect D13): with one `io.Copy` per connection on the shared reader, the copier of the connection
that has gone takes the next chunk and loses it — the second host never sees it -/
theorem stale_copier_witness : ∃ s, runFrom ⟨false⟩ init [.connect, .drop 0, .connect, .write 7, .take 0] = some s ∧
    s.lost = [7] ∧ s.delivered 1 = [] :=
  exists_some_of_any (by decide)

end GoPlugin.Props.StdioConn
