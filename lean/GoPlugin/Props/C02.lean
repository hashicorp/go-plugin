import GoPlugin.Lemmas.Negotiate
/-
C02 — Version negotiation settles both sides on the highest common version.

Property theorems only.  Quantifiers: every structural-fact record `P` with
`Params.Good`; every host configuration `h` and plugin configuration `cfg`
(legacy `ProtocolVersion`+`Plugins` fields and `VersionedPlugins` maps of any
finite size, as association lists in ANY iteration order, version 0 and
negative versions included); every `GRPCServer` setting and every assignment of
plugin kinds to sets; every value of PLUGIN_PROTOCOL_VERSIONS (any bytes).

`keys h.folded` is the host's version set after its legacy fold,
`keys cfg.folded` the plugin's after its (different) fold.
-/
namespace GoPlugin.Props.C02
open Go Negotiate List

/-- A value of Go's 64-bit `int`. -/
def InRange (v : Int) : Prop := -(2:Int)^63 ≤ v ∧ v < (2:Int)^63

/-- All plugins of a set use the same wire protocol (the documented API requirement). -/
def Homogeneous (ks : List Proto) : Prop := ∀ x ∈ ks, ∀ y ∈ ks, x = y

/-- Plugin side: `Plugins` registered under `ProtocolVersion` OVERWRITES a
`VersionedPlugins` entry with that key; all other entries are untouched. -/
theorem fold_server_overwrites (m : VMap) (v : Int) (s : SetId) (w : Int) :
    lookup (foldLegacyServer m v (some s)) w = if w = v then some s else lookup m w := by
  simp only [foldLegacyServer]
  split
  · next h =>
    obtain ⟨t, ht⟩ := (mem_keys_iff_lookup m v).1 ((hasKey_iff m v).1 h)
    simp only [lookup_replace, ht, Option.map_some]
  · next h => exact lookup_append_fresh m v s w (fun hv => h ((hasKey_iff m v).2 hv))

/-- Host side: an existing `VersionedPlugins` entry WINS over the legacy fields. -/
theorem fold_client_keeps (m : VMap) (v : Int) (s : SetId) (w : Int) :
    lookup (foldLegacyClient m v (some s)) w =
      if w = v then (match lookup m v with | some t => some t | none => some s) else lookup m w := by
  simp only [foldLegacyClient]
  split
  · next h =>
    obtain ⟨t, ht⟩ := (mem_keys_iff_lookup m v).1 ((hasKey_iff m v).1 h)
    by_cases hw : w = v <;> simp [hw, ht]
  · next h =>
    have hv : v ∉ keys m := fun hv => h ((hasKey_iff m v).2 hv)
    rw [lookup_append_fresh m v s w hv, (lookup_none_iff m v).2 hv]

/-- Either fold adds exactly the legacy version (when `Plugins != nil`) to the key set. -/
theorem fold_keys (m : VMap) (v : Int) (p : Option SetId) (w : Int) :
    (w ∈ keys (foldLegacyServer m v p) ↔ w ∈ keys m ∨ (p.isSome = true ∧ w = v)) ∧
    (w ∈ keys (foldLegacyClient m v p) ↔ w ∈ keys m ∨ (p.isSome = true ∧ w = v)) := by
  rw [keys_foldLegacyServer_eq_client]
  have hc : w ∈ keys (foldLegacyClient m v p) ↔ w ∈ keys m ∨ (p.isSome = true ∧ w = v) := by
    cases p with
    | none => simp [foldLegacyClient]
    | some s =>
      simp only [foldLegacyClient, Option.isSome_some, true_and]
      split
      · next h => exact (or_iff_left_of_imp fun e => e ▸ (hasKey_iff m v).1 h).symm
      · simp [keys]
  exact ⟨hc, hc⟩

example : lookup (foldLegacyServer [(2, 7)] 2 (some 9)) 2 = some 9 ∧
          lookup (foldLegacyClient [(2, 7)] 2 (some 9)) 2 = some 7 := by decide

/-- The plugin always serves the set registered under the version it announces
(both are recorded by the same loop iteration; with nothing to serve both are empty). -/
theorem pick_uses_registered_set (P : Params) (hP : P.Good) (cfg : ServeCfg) (clientVs : List Int) :
    (serverPick P cfg clientVs).2.2 = lookup cfg.folded (serverPick P cfg clientVs).1 := by
  unfold serverPick
  by_cases hne : cfg.folded = []
  · -- an empty folded map means `Plugins == nil`: a non-nil `Plugins` is folded in under `ProtocolVersion`
    have hp : cfg.legacyPlugins = none := Option.not_isSome_iff_eq_none.1 fun hs => by
      have : cfg.legacyVersion ∈ keys cfg.folded := (fold_keys _ _ _ _).1.2 (.inr ⟨hs, rfl⟩)
      simp [hne, keys] at this
    simp [hne, pickMap_nil, ServeCfg.init, hp, Negotiate.lookup]
  · exact pickMap_set P hP _ _ _ _ _ hne

/-- **Highest common version.**  If the client's list and the plugin's versions
intersect, `protocolVersion` returns a version that is in both, every common
version is ≤ it, and the returned plugin set is the one registered under it. -/
theorem pick_highest_common (P : Params) (hP : P.Good) (cfg : ServeCfg) (clientVs : List Int)
    (hc : ∃ v, v ∈ clientVs ∧ v ∈ keys cfg.folded) :
    (serverPick P cfg clientVs).1 ∈ clientVs ∧
    (serverPick P cfg clientVs).1 ∈ keys cfg.folded ∧
    (∀ w, w ∈ clientVs → w ∈ keys cfg.folded → w ≤ (serverPick P cfg clientVs).1) ∧
    (serverPick P cfg clientVs).2.2 = lookup cfg.folded (serverPick P cfg clientVs).1 := by
  obtain ⟨hClient, hPlugin, hMax⟩ := pickMap_common P hP cfg.grpcServer cfg.kinds cfg.init cfg.folded clientVs hc
  exact ⟨hClient, hPlugin, hMax, pick_uses_registered_set P hP cfg clientVs⟩

example : serverPick ⟨true, true, true, true⟩ ⟨1, none, [(1, 11), (3, 13), (2, 12)], false, fun _ => []⟩ [2, 1, 5]
    = (2, .netrpc, some 12) := by decide

/-- **No common version → the lowest.**  The plugin then returns its lowest
version and the set registered under it. -/
theorem no_common_lowest (P : Params) (hP : P.Good) (cfg : ServeCfg) (clientVs : List Int)
    (hd : ∀ v, v ∈ clientVs → v ∉ keys cfg.folded) (hne : cfg.folded ≠ []) :
    (serverPick P cfg clientVs).1 ∈ keys cfg.folded ∧
    (∀ w, w ∈ keys cfg.folded → (serverPick P cfg clientVs).1 ≤ w) ∧
    (serverPick P cfg clientVs).2.2 = lookup cfg.folded (serverPick P cfg clientVs).1 := by
  obtain ⟨hPlugin, hMin⟩ := pickMap_disjoint P hP cfg.grpcServer cfg.kinds cfg.init cfg.folded clientVs hd hne
  exact ⟨hPlugin, hMin, pick_uses_registered_set P hP cfg clientVs⟩

/-- **A host that sends no version list is offered the plugin's lowest version**:
PLUGIN_PROTOCOL_VERSIONS absent/empty, or with no valid entry at all. -/
theorem no_list_lowest (P : Params) (hP : P.Good) (cfg : ServeCfg) (env : Bytes)
    (he : env = [] ∨ parseVersions env = []) (hne : cfg.folded ≠ []) :
    (serverPickEnv P cfg env).1 ∈ keys cfg.folded ∧
    (∀ w, w ∈ keys cfg.folded → (serverPickEnv P cfg env).1 ≤ w) ∧
    (serverPickEnv P cfg env).2.2 = lookup cfg.folded (serverPickEnv P cfg env).1 := by
  have hp : parseVersions env = [] := by
    rcases he with rfl | h
    · simp [parseVersions]
    · exact h
  unfold serverPickEnv
  rw [hp]
  exact no_common_lowest P hP cfg [] (by simp) hne

example : serverPickEnv ⟨true, true, true, true⟩ ⟨0, none, [(4, 14), (2, 12), (3, 13)], false, fun _ => []⟩ []
    = (2, .netrpc, some 12) := by decide

/-- **The wire protocol is that of the chosen set.**  With `GRPCServer`
configured the announced protocol is the kind of the first plugin of the chosen
set — hence, for a non-empty homogeneous set, the kind of all its plugins.
Without `GRPCServer` it is always net/rpc. -/
theorem pick_protocol (P : Params) (hP : P.Good) (cfg : ServeCfg) (clientVs : List Int) :
    (cfg.grpcServer = true → ∀ s, (serverPick P cfg clientVs).2.2 = some s →
        Homogeneous (cfg.kinds s) → cfg.kinds s ≠ [] → ∀ y ∈ cfg.kinds s, (serverPick P cfg clientVs).2.1 = y) ∧
    (cfg.grpcServer = false → (serverPick P cfg clientVs).2.1 = .netrpc) := by
  have hp := pickMap_proto P hP cfg.grpcServer cfg.kinds cfg.init cfg.folded clientVs
  constructor
  · intro hg s hs hh hne y hy
    rw [pick_uses_registered_set P hP] at hs
    cases hk : cfg.kinds s with
    | nil => exact absurd hk hne
    | cons x xs =>
      have := hp.2 hg s x xs hs hk
      unfold serverPick
      rw [this]
      exact hh x (by simp [hk]) y hy
  · intro hg
    exact hp.1 hg

example : serverPick ⟨true, true, true, true⟩
    ⟨0, none, [(1, 11), (2, 12)], true, fun s => if s = 12 then [.grpc, .grpc] else [.netrpc]⟩ [1, 2]
    = (2, .grpc, some 12) := by decide

/-- **Rendering then parsing gives the host's keys back**, in the same order,
for every list of 64-bit keys. -/
theorem render_parse (ks : List Int) (hr : ∀ k ∈ ks, InRange k) :
    parseVersions (renderVersions ks) = ks := by
  rw [parse_render]
  exact filterMap_atoi_map_itoa ks hr

/-- In particular: whatever order the host's map is iterated in, the plugin
parses a permutation of the host's key set. -/
theorem render_parse_perm (ks ks' : List Int) (hr : ∀ k ∈ ks, InRange k) (hp : ks'.Perm ks) :
    (parseVersions (renderVersions ks')).Perm ks := by
  rw [render_parse ks' (fun k hk => hr k (hp.mem_iff.1 hk))]
  exact hp

/-- Even without the range assumption the plugin never parses a version the host did not render. -/
theorem parse_render_subset (ks : List Int) (v : Int) (hv : v ∈ parseVersions (renderVersions ks)) : v ∈ ks := by
  rw [parse_render, mem_filterMap] at hv
  obtain ⟨f, hf, ha⟩ := hv
  obtain ⟨k, hk, rfl⟩ := mem_map.1 hf
  rw [atoi_itoa_some k v ha]
  exact hk

-- "3,0,-12" for the key order [3, 0, -12]
example : renderVersions [3, 0, -12] = [51, 44, 48, 44, 45, 49, 50] ∧
    parseVersions [51, 44, 48, 44, 45, 49, 50] = [3, 0, -12] := by decide

/-- **A partly invalid list**: for any comma-separated list of fields, the plugin
sees exactly the fields `Atoi` accepts, in order; its decision equals the one it
takes on the list with the invalid fields removed. -/
theorem partly_invalid_list (P : Params) (cfg : ServeCfg) (fs : List Bytes) (hf : ∀ f ∈ fs, comma ∉ f) :
    parseVersions (join comma fs) = fs.filterMap atoi ∧
    serverPickEnv P cfg (join comma fs) =
      serverPickEnv P cfg (join comma (fs.filter (fun f => (atoi f).isSome))) := by
  have h1 := parse_join fs hf
  have h2 := parse_join (fs.filter (fun f => (atoi f).isSome)) (fun f hf' => hf f (mem_filter.1 hf').1)
  refine ⟨h1, ?_⟩
  unfold serverPickEnv
  rw [h1, h2]
  rw [filterMap_filter]
  congr 2
  funext f
  cases atoi f <;> rfl

-- "x,2,,+3,03, 1,99999999999999999999" parses to [2, 3, 3]
example : parseVersions [120, 44, 50, 44, 44, 43, 51, 44, 48, 51, 44, 32, 49, 44,
    57, 57, 57, 57, 57, 57, 57, 57, 57, 57, 57, 57, 57, 57, 57, 57, 57, 57, 57, 57] = [2, 3, 3] := by decide

/-- `checkProtoVersion` accepts exactly a parseable version that is a key of the
host's map, and answers with that version and the host's set registered under it. -/
theorem client_check_spec (P : Params) (hP : P.Good) (hostMap : VMap) (announced : Bytes) :
    clientCheck P hostMap announced =
      match atoi announced with
      | none => .error .versionParse
      | some sv => match lookup hostMap sv with
        | some s => .ok (sv, s)
        | none => .error .versionIncompatible := by
  unfold clientCheck
  cases atoi announced with
  | none => rfl
  | some sv => exact checkLoop_eq P hP.clientEq sv hostMap

private theorem client_check_ok_iff (P : Params) (hP : P.Good) (hostMap : VMap) (announced : Bytes) (v : Int) (s : SetId) :
    clientCheck P hostMap announced = .ok (v, s) ↔ atoi announced = some v ∧ lookup hostMap v = some s := by
  rw [client_check_spec P hP]
  cases atoi announced with
  | none => simp
  | some sv =>
    by_cases hv : sv = v
    · subst hv
      cases hl : lookup hostMap sv <;> simp [hl]
    · cases hl : lookup hostMap sv <;> simp [hl, hv]

/-- **Both sides settle on the highest common version.**  If the host's and the
plugin's version sets intersect: the plugin announces the maximum of the
intersection, the client accepts and reports exactly that version, the client
uses its own set registered under it and the plugin serves its own set
registered under it. -/
theorem client_accepts_pick (P : Params) (hP : P.Good) (h : HostCfg) (cfg : ServeCfg)
    (hr : ∀ k ∈ keys h.folded, InRange k)
    (hc : ∃ v, v ∈ keys h.folded ∧ v ∈ keys cfg.folded) :
    let st := (negotiate P h cfg).1
    st.1 ∈ keys h.folded ∧ st.1 ∈ keys cfg.folded ∧
    (∀ w, w ∈ keys h.folded → w ∈ keys cfg.folded → w ≤ st.1) ∧
    st.2.2 = lookup cfg.folded st.1 ∧
    ∃ hs, lookup h.folded st.1 = some hs ∧ (negotiate P h cfg).2 = .ok (st.1, hs) := by
  simp only [negotiate, serverPickEnv, render_parse _ hr]
  obtain ⟨h1, h2, h3, h4⟩ := pick_highest_common P hP cfg (keys h.folded) hc
  refine ⟨h1, h2, h3, h4, ?_⟩
  obtain ⟨hs, hhs⟩ := (mem_keys_iff_lookup _ _).1 h1
  exact ⟨hs, hhs, (client_check_ok_iff P hP _ _ _ hs).2 ⟨atoi_itoa _ (hr _ h1).1 (hr _ h1).2, hhs⟩⟩

example : negotiate ⟨true, true, true, true⟩ ⟨1, some 1001, [(2, 2), (3, 3)]⟩
    ⟨0, none, [(3, 13), (1, 11), (2, 12), (4, 14)], false, fun _ => []⟩
    = ((3, .netrpc, some 13), .ok (3, 3)) := by decide

/-- **The two sides never proceed with sets registered under different versions.**
Whenever the client accepts — for any configurations whatsoever — the version it
reports is the version the plugin announced, the client's set is the one the
host registered under that version, and the plugin's set is the one the plugin
registered under that same version. -/
theorem never_different_versions (P : Params) (hP : P.Good) (h : HostCfg) (cfg : ServeCfg)
    (v : Int) (hs : SetId) (hok : (negotiate P h cfg).2 = .ok (v, hs)) :
    v = (negotiate P h cfg).1.1 ∧ lookup h.folded v = some hs ∧
    (negotiate P h cfg).1.2.2 = lookup cfg.folded v := by
  simp only [negotiate] at hok ⊢
  obtain ⟨ha, hl⟩ := (client_check_ok_iff P hP _ _ v hs).1 hok
  -- `Atoi` of the `%d` the plugin printed is the plugin's version
  cases atoi_itoa_some _ _ ha
  exact ⟨rfl, hl, pick_uses_registered_set P hP cfg _⟩

/-- **Disjoint sets fail.**  If the version sets do not intersect and the plugin
serves something, the plugin announces its lowest version and the client's start
fails with the incompatible-version error (`Start`'s deferred handler then kills
the plugin: `Props.C01.start_err_kills`). -/
theorem disjoint_fails (P : Params) (hP : P.Good) (h : HostCfg) (cfg : ServeCfg)
    (hr : ∀ k ∈ keys cfg.folded, InRange k)
    (hd : ∀ v, v ∈ keys h.folded → v ∉ keys cfg.folded) (hne : cfg.folded ≠ []) :
    (negotiate P h cfg).1.1 ∈ keys cfg.folded ∧
    (∀ w, w ∈ keys cfg.folded → (negotiate P h cfg).1.1 ≤ w) ∧
    (negotiate P h cfg).2 = .error .versionIncompatible := by
  simp only [negotiate, serverPickEnv]
  have hd' : ∀ v, v ∈ parseVersions (renderVersions (keys h.folded)) → v ∉ keys cfg.folded :=
    fun v hv => hd v (parse_render_subset _ v hv)
  obtain ⟨h1, h2, _⟩ := no_common_lowest P hP cfg _ hd' hne
  refine ⟨h1, h2, ?_⟩
  -- the client parses the announced version back and does not find it among its own keys
  have hin := hr _ h1
  simp only [client_check_spec P hP, atoi_itoa _ hin.1 hin.2, (lookup_none_iff _ _).2 fun hk => hd _ hk h1]

example : negotiate ⟨true, true, true, true⟩ ⟨0, none, [(5, 5), (4, 4)]⟩
    ⟨0, none, [(3, 13), (1, 11), (2, 12)], false, fun _ => []⟩
    = ((1, .netrpc, some 11), .error .versionIncompatible) := by decide

/-- The order (and multiplicity) of the client's list is irrelevant: only its
set of members matters.  This is why the direction of the sort of the client's
list (`Params.clientDesc`) is not part of `Params.Good`. -/
theorem client_list_order_irrelevant (P P' : Params) (hv : P.versionsDesc = P'.versionsDesc)
    (hf : P.fallbackLast = P'.fallbackLast) (cfg : ServeCfg) (cvs cvs' : List Int)
    (hm : ∀ v, v ∈ cvs ↔ v ∈ cvs') :
    serverPick P cfg cvs = serverPick P' cfg cvs' := by
  exact pickMap_rel Eq P P' hv hf cvs cvs' (fun _ _ _ h => h ▸ rfl) (Perm.refl _) hm rfl

/-- "The first" plugin of a homogeneous set has the same kind in every iteration order. -/
private theorem Homogeneous.head?_perm {l l' : List Proto} (hh : Homogeneous l) (hp : l.Perm l') :
    l.head? = l'.head? := by
  cases l' with
  | nil => rw [hp.eq_nil]
  | cons y ys =>
    cases l with
    | nil => exact absurd hp.symm.eq_nil (cons_ne_nil y ys)
    | cons x xs => exact congrArg some (hh x mem_cons_self y (hp.mem_iff.2 mem_cons_self))

/-- **Plugin side.**  Two key-unique orderings of the plugin's map, and two
orderings of the client's list, give the same version, protocol and set —
provided every set is homogeneous (the protocol is read off "the first" plugin
of a set, so for a mixed set it depends on the iteration order: see
`inhomogeneous_set_order_matters`). -/
theorem order_irrelevant_server (P : Params) (cfg cfg' : ServeCfg) (cvs cvs' : List Int)
    (hlv : cfg.legacyVersion = cfg'.legacyVersion) (hlp : cfg.legacyPlugins = cfg'.legacyPlugins)
    (hg : cfg.grpcServer = cfg'.grpcServer)
    (hn : (keys cfg.versioned).Nodup) (hperm : cfg.versioned.Perm cfg'.versioned)
    (hk : ∀ s, Homogeneous (cfg.kinds s) ∧ (cfg.kinds s).Perm (cfg'.kinds s))
    (hm : ∀ v, v ∈ cvs ↔ v ∈ cvs') :
    serverPick P cfg cvs = serverPick P cfg' cvs' := by
  have hfp := ServeCfg.folded_perm hlv hlp hperm
  have hfn := ServeCfg.folded_nodup hn
  have hinit : cfg.init = cfg'.init := by simp [ServeCfg.init, hlv, hlp]
  unfold serverPick
  rw [← hg, ← hinit]
  -- each visit reads `m[v]` and the first plugin of the set, which are the same on both sides
  refine pickMap_rel Eq P P rfl rfl cvs cvs' ?_ (keys_perm hfp) hm rfl
  rintro v a _ rfl
  simp only [visit, lookup_perm hfn hfp v]
  cases lookup cfg'.folded v with
  | none => rfl
  | some s => simp only [(hk s).1.head?_perm (hk s).2]

example : serverPick ⟨true, true, true, true⟩ ⟨2, some 99, [(1, 11), (3, 13), (2, 12)], true, fun _ => [.grpc, .grpc]⟩ [2, 1]
    = serverPick ⟨true, true, true, true⟩ ⟨2, some 99, [(2, 12), (1, 11), (3, 13)], true, fun _ => [.grpc, .grpc]⟩ [1, 1, 2] := by
  decide

/-- Why homogeneity is needed: one mixed set, iterated in its two orders, is
announced with two different wire protocols (same version, same set). -/
theorem inhomogeneous_set_order_matters :
    serverPick ⟨true, true, true, true⟩ ⟨0, none, [(1, 11)], true, fun _ => [.grpc, .netrpc]⟩ [1] = (1, .grpc, some 11) ∧
    serverPick ⟨true, true, true, true⟩ ⟨0, none, [(1, 11)], true, fun _ => [.netrpc, .grpc]⟩ [1] = (1, .netrpc, some 11) := by
  decide

/-- The version and the set do not depend on the plugins' kinds or on
`GRPCServer` at all (no homogeneity needed) — only the protocol does. -/
theorem order_irrelevant_version_set (P : Params) (cfg cfg' : ServeCfg) (cvs cvs' : List Int)
    (hlv : cfg.legacyVersion = cfg'.legacyVersion) (hlp : cfg.legacyPlugins = cfg'.legacyPlugins)
    (hn : (keys cfg.versioned).Nodup) (hperm : cfg.versioned.Perm cfg'.versioned)
    (hm : ∀ v, v ∈ cvs ↔ v ∈ cvs') :
    (serverPick P cfg cvs).1 = (serverPick P cfg' cvs').1 ∧
    (serverPick P cfg cvs).2.2 = (serverPick P cfg' cvs').2.2 := by
  have hfp := ServeCfg.folded_perm hlv hlp hperm
  have hfn := ServeCfg.folded_nodup hn
  have hinit : cfg.init = cfg'.init := by simp [ServeCfg.init, hlv, hlp]
  -- a visit records the version and `m[v]`, whatever was recorded before
  exact pickMap_rel (fun a b => a.1 = b.1 ∧ a.2.2 = b.2.2) P P rfl rfl cvs cvs'
    (fun v _ _ _ => ⟨rfl, lookup_perm hfn hfp v⟩) (keys_perm hfp) hm (by rw [hinit]; exact ⟨rfl, rfl⟩)

/-- **Host side.**  Two key-unique orderings of the host's map give the same
answer from `checkProtoVersion`. -/
theorem order_irrelevant_client (P : Params) (hP : P.Good) (m m' : VMap) (hn : (keys m).Nodup)
    (hp : m.Perm m') (announced : Bytes) :
    clientCheck P m announced = clientCheck P m' announced := by
  rw [client_check_spec P hP, client_check_spec P hP]
  cases atoi announced with
  | none => rfl
  | some sv => simp only [lookup_perm hn hp sv]

/-- **The whole negotiation is independent of every map iteration order**: the
host's `VersionedPlugins` (order of rendering PLUGIN_PROTOCOL_VERSIONS and of the
search in `checkProtoVersion`), the plugin's `VersionedPlugins`, and the plugins
inside each (homogeneous) set. -/
theorem order_irrelevant (P : Params) (hP : P.Good) (h h' : HostCfg) (cfg cfg' : ServeCfg)
    (hhv : h.legacyVersion = h'.legacyVersion) (hhp : h.legacyPlugins = h'.legacyPlugins)
    (hhn : (keys h.versioned).Nodup) (hhperm : h.versioned.Perm h'.versioned)
    (hlv : cfg.legacyVersion = cfg'.legacyVersion) (hlp : cfg.legacyPlugins = cfg'.legacyPlugins)
    (hg : cfg.grpcServer = cfg'.grpcServer)
    (hn : (keys cfg.versioned).Nodup) (hperm : cfg.versioned.Perm cfg'.versioned)
    (hk : ∀ s, Homogeneous (cfg.kinds s) ∧ (cfg.kinds s).Perm (cfg'.kinds s)) :
    negotiate P h cfg = negotiate P h' cfg' := by
  have hfp : h.folded.Perm h'.folded := by
    unfold HostCfg.folded
    rw [← hhv, ← hhp]
    exact foldLegacyClient_perm hhperm _ _
  have hfn : (keys h.folded).Nodup := foldLegacyClient_nodup hhn _ _
  have hmem : ∀ v, v ∈ parseVersions (renderVersions (keys h.folded)) ↔
      v ∈ parseVersions (renderVersions (keys h'.folded)) := by
    intro v
    rw [parse_render, parse_render]
    exact (((keys_perm hfp).map itoa).filterMap atoi).mem_iff
  have hst : serverPickEnv P cfg (renderVersions (keys h.folded)) =
      serverPickEnv P cfg' (renderVersions (keys h'.folded)) :=
    order_irrelevant_server P cfg cfg' _ _ hlv hlp hg hn hperm hk hmem
  simp only [negotiate, hst, order_irrelevant_client P hP _ _ hfn hfp]

example : negotiate ⟨true, true, true, true⟩ ⟨1, some 1001, [(2, 2), (3, 3)]⟩
      ⟨0, none, [(3, 13), (1, 11), (2, 12)], true, fun _ => [.grpc]⟩
    = negotiate ⟨true, true, true, true⟩ ⟨1, some 1001, [(3, 3), (2, 2)]⟩
      ⟨0, none, [(2, 12), (3, 13), (1, 11)], true, fun _ => [.grpc]⟩ := by decide

/-! ### the structural facts matter: with a fact false the property fails (witnesses) -/

/-- Versions visited in ascending order: two common versions, the LOWER one is picked. -/
theorem versions_ascending_witness :
    (serverPick ⟨false, true, true, true⟩ ⟨0, none, [(1, 11), (2, 12)], false, fun _ => []⟩ [1, 2]).1 = 1 := by
  decide

/-- Fallback to the first visited version: a host without a list is offered the HIGHEST version. -/
theorem fallback_first_witness :
    (serverPick ⟨true, true, false, true⟩ ⟨0, none, [(1, 11), (2, 12)], false, fun _ => []⟩ []).1 = 2 := by
  decide

/-- No equality test in `checkProtoVersion`: the host offers {1}, the plugin announces "2",
the client accepts and proceeds with its version-1 set. -/
theorem client_accepts_any_witness :
    clientCheck ⟨true, true, true, false⟩ [(1, 1)] [50] = .ok (1, 1) := by decide

/-- …and the two sides then run sets registered under different versions. -/
theorem client_accepts_any_mismatch_witness :
    negotiate ⟨true, true, true, false⟩ ⟨0, none, [(1, 1)]⟩ ⟨0, none, [(2, 12)], false, fun _ => []⟩
      = ((2, .netrpc, some 12), .ok (1, 1)) := by decide

example : (⟨true, true, true, true⟩ : Params).Good := by decide

end GoPlugin.Props.C02
