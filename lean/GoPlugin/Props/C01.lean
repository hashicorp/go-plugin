import GoPlugin.Lemmas.Handshake
/-
C01 — Handshake line accepted only when well-formed; never crashes the host.

Property theorems, the lemmas they rest on, witnesses and an example.  Quantifiers: every structural-fact record `P`
satisfying `Params.Good`, every client configuration `c`, every behaviour `e`
of the resolvers / address translator / certificate parser, every byte
sequence `l` delivered as first line, every arm of `Start`'s select.
-/
namespace GoPlugin.Props.C01
open Go Handshake

/-- Declarative well-formedness of a first line for a client: what the
property statement lists, written without reference to `Start`'s control flow. -/
def WellFormed (certMinLen : Nat) (c : HostCfg) (e : Ext) (l : Bytes)
    (a : Addr) (p : Bytes) (v : Int) : Prop :=
  ∃ p0 p1 p2 p3 rest,
    split bar (trimSpace l) = p0 :: p1 :: p2 :: p3 :: rest ∧
    -- core protocol version 1
    atoi p0 = some 1 ∧
    -- an application version the client offers
    atoi p1 = some v ∧ v ∈ c.versions ∧
    -- a network of tcp or unix with a resolvable address
    (∃ net address, e.translate p2 p3 = some (net, address) ∧
      ((net = sTcp ∧ e.resolveTcp address = some a) ∨
       (net ≠ sTcp ∧ net = sUnix ∧ e.resolveUnix address = some a))) ∧
    -- a protocol in the allowed list (absent field means netrpc)
    p = protoOf rest ∧ p ∈ c.allowed ∧
    -- when present, a parseable certificate (and a client able to use it)
    (∀ cert, rest[1]? = some cert → cert.length > certMinLen →
        c.hasTls = true ∧ e.certParses cert = true) ∧
    -- a multiplexing flag consistent with the client's configuration
    (c.mux = true → p = sGrpc → ∃ m, rest[2]? = some m ∧ parseBool m = some true)

/-- With an address in hand `afterAddr` returns an error, or succeeds with that address and the line's protocol after
every field check has passed.  (Branches of `afterAddr`, `fun_cases`: 1 protocol not allowed, 2 certificate fails, 3 nil
dereference, 4 mux error, 5 success with an address, 6 success without; `addr` stays a variable, with `ha` beside it,
because `fun_cases` splits on variables.) -/
private theorem afterAddr_some (P : Params) (hNilGuard : P.certNilGuard = true) (c : HostCfg) (e : Ext)
    (rest : List Bytes) (v : Int) (addr : Option Addr) (a : Addr) (ha : addr = some a) :
    (∃ k, afterAddr P c e rest v addr = .err k) ∨
    (afterAddr P c e rest v addr = .ok a (protoOf rest) v ∧ protoOf rest ∈ c.allowed ∧
      certCheck P c e rest = .pass ∧ muxCheck c (protoOf rest) rest = none) := by
  fun_cases afterAddr P c e rest v addr
  case case3 _ hcc => exact (certCheck_ne_nilDeref P hNilGuard c e rest hcc).elim
  case case5 _ hp hcc hmx a' => cases ha; exact Or.inr ⟨rfl, Classical.not_not.1 hp, hcc, hmx⟩
  case case6 => cases ha
  all_goals exact Or.inl ⟨_, rfl⟩

/-- Under the good facts `parseLine` returns an error, or succeeds on a well-formed line with the line's
values: it neither panics nor returns a nil error without an address.  (Branches of `parseLine`, `fun_cases`: 1–7 the
error returns in the order of the checks, 8 the unchecked address error, 9 `afterAddr`, 10 fewer than four fields.) -/
theorem parseLine_cases (P : Params) (hP : P.Good) (c : HostCfg) (e : Ext) (l : Bytes) :
    (∃ k, parseLine P c e l = .err k) ∨
    (∃ a p v, parseLine P c e l = .ok a p v ∧ WellFormed P.certMinLen c e l a p v) := by
  fun_cases parseLine P c e l
  case case8 hUnchecked => exact (hUnchecked hP.addrErrChecked).elim
  case case9 parts _ p0 p1 p2 p3 rest hs core h0 hcore v h1 hv net address ht addr hr =>
    rcases afterAddr_some P hP.certNilGuard c e rest v _ addr rfl with ⟨k, hk⟩ | ⟨hok, hpa, hcc, hmx⟩
    · exact Or.inl ⟨k, hk⟩
    · have hcore : core = 1 := (Classical.not_not.1 hcore).trans hP.coreVersion
      exact Or.inr ⟨addr, _, v, hok, p0, p1, p2, p3, rest, hs, hcore ▸ h0, h1, Classical.not_not.1 hv,
        ⟨net, address, ht, (resolve_eq_some_iff e net address _).1 hr⟩, rfl, hpa,
        (certCheck_pass_iff P hP.certNilGuard c e rest).1 hcc, (muxCheck_none_iff c _ rest).1 hmx⟩
  case case10 parts hlen hno =>
    -- at least `minFields = 4` fields, so the first four are there: a shorter list contradicts `hlen`, a longer one `hno`
    exfalso
    clear_value parts
    rw [hP.minFields] at hlen
    rcases parts with _ | ⟨p0, _ | ⟨p1, _ | ⟨p2, _ | ⟨p3, rest⟩⟩⟩⟩ <;>
      first | exact hno _ _ _ _ _ rfl | exact hlen (by simp)
  all_goals exact Or.inl ⟨_, rfl⟩

/-- **Accept only if well-formed, and report exactly the line's values** (and conversely):
`Start` succeeds with address `a`, protocol `p`, version `v` iff the line is
well-formed for this client with exactly those values. -/
theorem start_ok_iff_wellformed (P : Params) (hP : P.Good) (c : HostCfg) (e : Ext) (l : Bytes)
    (a : Addr) (p : Bytes) (v : Int) :
    start P c e (.line l) = .ok a p v ↔ WellFormed P.certMinLen c e l a p v := by
  constructor
  · intro h
    simp only [start, body] at h
    -- `deferred` makes an error of an error and leaves a success as it is
    rcases parseLine_cases P hP c e l with ⟨k, hk⟩ | ⟨a', p', v', hok, hw⟩
    · rw [hk] at h; cases h
    · rw [hok] at h; cases h; exact hw
  · rintro ⟨p0, p1, p2, p3, rest, hs, h0, h1, hv, ⟨net, address, ht, hr⟩, rfl, hpa, hcert, hmux⟩
    have hres := (resolve_eq_some_iff e net address a).2 hr
    simp [start, body, parseLine_of_fields P hP c e l p0 p1 p2 p3 rest v hs h0 h1, hv, ht, hres, afterAddr, hpa,
      (certCheck_pass_iff P hP.certNilGuard c e _).2 hcert, (muxCheck_none_iff c _ _).2 hmux, deferred]

/-- **No line makes the host panic, and a nil error always comes with an address.** -/
theorem start_never_panics (P : Params) (hP : P.Good) (c : HostCfg) (e : Ext) (i : Input) :
    (∀ k, start P c e i ≠ .panic k) ∧ start P c e i ≠ .okNoAddr := by
  -- the body returns an error or a success with an address; `deferred` keeps the one an error, the other a success
  have key : (∃ k, body P c e i = .err k) ∨ ∃ a p v, body P c e i = .ok a p v := by
    cases i with
    | line l => exact (parseLine_cases P hP c e l).imp_right fun ⟨a, p, v, h, _⟩ => ⟨a, p, v, h⟩
    | _ => exact Or.inl ⟨_, rfl⟩
  unfold start
  rcases key with ⟨k, h⟩ | ⟨a, p, v, h⟩ <;> rw [h] <;> simp [deferred]

/-- **Every error return has killed the launched process** (shared with C05). -/
theorem start_err_kills (P : Params) (hF : P.cleanupKillCtxFresh = true) (c : HostCfg) (e : Ext) (i : Input) (k : ErrKind) (killed : Bool) :
    start P c e i = .err k killed → killed = true := by
  unfold start
  -- only an error body gives an error outcome, and its flag is `cleanupKillCtxFresh || _`
  cases body P c e i with
  | err k' =>
    simp only [deferred, hF, Bool.true_or]
    rintro ⟨⟩
    rfl
  | _ => intro h; cases h

/-- **Bounded wait**: silence, early exit and a closed stdout all end in an error —
every arm of the `select` other than a delivered line is an error arm, and the
timer arm exists. -/
theorem start_nonline_errs (P : Params) (hF : P.cleanupKillCtxFresh = true) (c : HostCfg) (e : Ext) :
    start P c e .silent = .err .timeout true ∧
    start P c e .exited = .err .exited true ∧
    start P c e .closed = .err .unrecognized true := by
  simp [start, body, deferred, hF]

/-- Witness: a clean-up that hands the (already expired) start context to a runner honouring it: at the start timeout the error is
returned and the process keeps running -/
theorem expired_ctx_witness :
    start ⟨true, true, 4, 50, 1, true, true, false⟩ ⟨[1], [sNetrpc], false, false⟩ ⟨fun n a => some (n, a), fun _ => none, fun _ => none, fun _ => true⟩ .silent
      = .err .timeout false := by decide

/-- The next three: single checks as corollaries of `start_ok_iff_wellformed` (each a "drop this check" mutant). -/
theorem start_ok_core_is_one (P : Params) (hP : P.Good) (c : HostCfg) (e : Ext) (l : Bytes)
    (a : Addr) (p : Bytes) (v : Int) (h : start P c e (.line l) = .ok a p v) :
    ∃ p0, (split bar (trimSpace l))[0]? = some p0 ∧ atoi p0 = some 1 := by
  obtain ⟨p0, p1, p2, p3, rest, hs, h0, _⟩ := (start_ok_iff_wellformed P hP c e l a p v).1 h
  exact ⟨p0, by simp [hs], h0⟩

theorem start_ok_version_offered (P : Params) (hP : P.Good) (c : HostCfg) (e : Ext) (l : Bytes)
    (a : Addr) (p : Bytes) (v : Int) (h : start P c e (.line l) = .ok a p v) :
    v ∈ c.versions ∧ ∃ p1, (split bar (trimSpace l))[1]? = some p1 ∧ atoi p1 = some v := by
  obtain ⟨p0, p1, p2, p3, rest, hs, _, h1, hv, _⟩ := (start_ok_iff_wellformed P hP c e l a p v).1 h
  exact ⟨hv, p1, by simp [hs], h1⟩

theorem start_ok_protocol_allowed (P : Params) (hP : P.Good) (c : HostCfg) (e : Ext) (l : Bytes)
    (a : Addr) (p : Bytes) (v : Int) (h : start P c e (.line l) = .ok a p v) :
    p ∈ c.allowed := by
  obtain ⟨p0, p1, p2, p3, rest, hs, h0, h1, hv, hres, hp, hpa, hcert, hmux⟩ := (start_ok_iff_wellformed P hP c e l a p v).1 h
  exact hpa

/-- **A failed `Start` stays failed**: `c.address` (the "started" flag every later `Start`, `Client()`,
`Protocol()` and `ReattachConfig()` answers from) is recorded exactly when `Start` succeeded, so no
later call on the client can turn a rejected line into a success. -/
theorem address_recorded_iff_ok (P : Params) (hP : P.Good) (c : HostCfg) (e : Ext) (i : Input) :
    addressRecorded P c e i = true ↔ ∃ a p v, start P c e i = .ok a p v := by
  unfold addressRecorded start
  cases hb : body P c e i <;> simp [deferred, hP.addressAssignedLast]

theorem failed_start_stays_failed (P : Params) (hP : P.Good) (c : HostCfg) (e : Ext) (i : Input) (k : ErrKind) (killed : Bool)
    (h : start P c e i = .err k killed) : startAgainOk P c e i = false := by
  unfold startAgainOk
  cases hr : addressRecorded P c e i with
  | false => rfl
  | true =>
    obtain ⟨a, p, v, hok⟩ := (address_recorded_iff_ok P hP c e i).1 hr
    rw [h] at hok; cases hok

/-! ### The structural facts matter: with any one of them false the property fails (witnesses). -/

/-- a resolver that knows nothing, identity translation -/
def extNone : Ext := ⟨fun n a => some (n, a), fun _ => none, fun _ => none, fun _ => true⟩

def cfgPlain : HostCfg := ⟨[1], [sNetrpc], false, false⟩

/-- `1|1|foo|bar` -/
def lineFooBar : Bytes := [49, 124, 49, 124, 102, 111, 111, 124, 98, 97, 114]

/-- D1: with the address error unchecked, `1|1|foo|bar` yields a nil error and a nil address. -/
theorem addr_unchecked_witness :
    start ⟨false, true, 4, 50, 1, true, true, true⟩ cfgPlain extNone (.line lineFooBar) = .okNoAddr := by decide

/-- `1|1|tcp|:1|netrpc|` followed by 51 bytes of certificate -/
def lineCert : Bytes :=
  [49, 124, 49, 124, 116, 99, 112, 124, 58, 49, 124, 110, 101, 116, 114, 112, 99, 124] ++ List.replicate 51 65

def extAll : Ext := ⟨fun n a => some (n, a), fun a => some ⟨sTcp, a⟩, fun a => some ⟨sUnix, a⟩, fun _ => true⟩

/-- D2: without the nil guard, a parseable certificate offered to a client without TLS panics
(and the deferred handler kills the plugin before re-panicking). -/
theorem cert_nil_witness :
    start ⟨true, false, 4, 50, 1, true, true, true⟩ cfgPlain extAll (.line lineCert) = .panic true := by decide

/-- Fewer required fields than the four that are indexed: index out of range. -/
theorem min_fields_witness :
    start ⟨true, true, 3, 50, 1, true, true, true⟩ cfgPlain extAll (.line [49, 124, 49, 124, 116]) = .panic true := by decide

/-- `1|1|tcp|a|grpc` offered to a net/rpc-only client -/
def lineGrpc : Bytes := [49, 124, 49, 124, 116, 99, 112, 124, 97, 124, 103, 114, 112, 99]

/-- With the address recorded where it is resolved, a line rejected for its protocol makes the
first `Start` fail (and kill the plugin) — and every later `Start` succeed. -/
theorem address_early_witness :
    start ⟨true, true, 4, 50, 1, false, true, true⟩ cfgPlain extAll (.line lineGrpc) = .err .protocol true ∧
    startAgainOk ⟨true, true, 4, 50, 1, false, true, true⟩ cfgPlain extAll (.line lineGrpc) = true := by decide

/-- `1|1|tcp|:1|netrpc|` is accepted by a plain client with exactly the line's values. -/
example : start ⟨true, true, 4, 50, 1, true, true, true⟩ cfgPlain extAll
    (.line [49, 124, 49, 124, 116, 99, 112, 124, 58, 49, 124, 110, 101, 116, 114, 112, 99, 124])
    = .ok ⟨sTcp, [58, 49]⟩ sNetrpc 1 := by decide

example : (⟨true, true, 4, 50, 1, true, true, true⟩ : Params).Good := by decide

end GoPlugin.Props.C01
