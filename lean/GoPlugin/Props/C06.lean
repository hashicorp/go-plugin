import GoPlugin.Lemmas.MuxBrokerFrame
import GoPlugin.Model.MuxFrame
/-
C06 — MuxBroker connects Dial(id) only to Accept(id).

Quantifiers: every reachable state of the broker model = every finite history
of dials and accepts on any number of ids, every interleaving of the broker's
goroutines and every timer firing order.  (Byte delivery and ordering on an
established yamux stream are yamux's and are assumed.)
-/
namespace GoPlugin.MuxFrame.Params.Good
variable {P : Params} (h : P.Good)
include h
private theorem headerReadExact : P.headerReadExact = true := h.1
private theorem noDeadlineLeft : P.noDeadlineLeft = true := h.2
end GoPlugin.MuxFrame.Params.Good

namespace GoPlugin.Props.C06
open MuxBroker

/-- **Accept(n) only ever returns a stream whose dialler wrote header n**, and that
stream is marked as taken by exactly this Accept (its ack is the one the dialler reads). -/
theorem accept_returns_matching (P : Params) (s : State) (h : Reachable P s)
    (g : Nat) (a : Acc) (sid : Nat) (ha : s.accs g = some a) (hp : a.pc = .took sid) :
    s.streams sid = some ⟨a.id, .taken g⟩ :=
  (consistent_of_reachable P s h).took_st g a sid ha hp

/-- **No stream is returned by two Accepts**: the connection dialled for n is the
peer of one accepted connection and of no other. -/
theorem stream_unique (P : Params) (s : State) (h : Reachable P s)
    (g g' : Nat) (a a' : Acc) (sid : Nat)
    (ha : s.accs g = some a) (hp : a.pc = .took sid) (ha' : s.accs g' = some a') (hp' : a'.pc = .took sid) :
    g = g' := by
  have h1 := accept_returns_matching P s h g a sid ha hp
  have h2 := accept_returns_matching P s h g' a' sid ha' hp'
  -- the stream's status names the one Accept that took it
  exact StreamSt.taken.inj (Stream.mk.inj (Option.some.inj (h1.symm.trans h2))).2

/-- A stream parked for id n waits in the slot registered for n: it can only be handed to an Accept(n). -/
theorem parked_in_own_slot (P : Params) (s : State) (h : Reachable P s)
    (k : Nat) (sl : Slot) (sid : Nat) (hk : s.slots k = some sl) (hb : sl.buf = some sid) :
    s.streams sid = some ⟨sl.id, .parked k⟩ :=
  (consistent_of_reachable P s h).buf_st k sl sid hk hb

/-- Both orders of one establishment, from ANY state with a free mutex, an idle `Run`, an empty accept queue and
no pending slot for `n` — for every fact record: the five events run through and the Accept receives exactly the
stream the dial opened.  (Reachability and the good facts enter the theorems below only to free the mutex.) -/
theorem establish_of_unlocked (P : Params) (s : State) (n : Nat) (hl : s.lock = none)
    (hfresh : s.map n = none) (hrun : s.run = .idle) (hq : s.queue = []) :
    (∃ s', runFrom P s [.accept n, .dial n, .runTake, .runPark, .accTake s.nAccs] = some s' ∧
      (s'.accs s.nAccs).map (·.pc) = some (.took s.nStreams) ∧
      s'.streams s.nStreams = some ⟨n, .taken s.nAccs⟩) ∧
    (∃ s', runFrom P s [.dial n, .runTake, .runPark, .accept n, .accTake s.nAccs] = some s' ∧
      (s'.accs s.nAccs).map (·.pc) = some (.took s.nStreams) ∧
      s'.streams s.nStreams = some ⟨n, .taken s.nAccs⟩) := by
  -- `hfresh` makes `getStream` allocate a new slot, with `buf = none` and `done = false`: so `runPark` parks
  -- (the buffer is empty) and `accTake` takes the branch that does not panic (`doneCh` is open)
  constructor <;> simp [runFrom, step, getStream, setStream, setSlot, setAcc, upd, hfresh, hrun, hq, hl]

/-- **Accept first, dial within the window: both succeed.**  From any reachable,
quiescent state (Run idle, nothing queued) and any id without a pending slot:
Accept(n) is issued, then the peer dials n, Run processes the stream, and the
Accept receives exactly that new stream — whatever history came before and
whatever other ids are outstanding. -/
theorem accept_then_dial_succeeds (P : Params) (hP : P.Good) (s : State) (h : Reachable P s) (n : Nat)
    (hfresh : s.map n = none) (hrun : s.run = .idle) (hq : s.queue = []) :
    ∃ s', runFrom P s [.accept n, .dial n, .runTake, .runPark, .accTake s.nAccs] = some s' ∧
      (s'.accs s.nAccs).map (·.pc) = some (.took s.nStreams) ∧
      s'.streams s.nStreams = some ⟨n, .taken s.nAccs⟩ :=
  (establish_of_unlocked P s n (consistent_live_of_reachable P hP s h).2.lock_free hfresh hrun hq).1

/-- **Dial first, accept within the window: both succeed.** -/
theorem dial_then_accept_succeeds (P : Params) (hP : P.Good) (s : State) (h : Reachable P s) (n : Nat)
    (hfresh : s.map n = none) (hrun : s.run = .idle) (hq : s.queue = []) :
    ∃ s', runFrom P s [.dial n, .runTake, .runPark, .accept n, .accTake s.nAccs] = some s' ∧
      (s'.accs s.nAccs).map (·.pc) = some (.took s.nStreams) ∧
      s'.streams s.nStreams = some ⟨n, .taken s.nAccs⟩ :=
  (establish_of_unlocked P s n (consistent_live_of_reachable P hP s h).2.lock_free hfresh hrun hq).2

/-- `Dispense` (rpc_server.go / rpc_client.go): the server reserves a fresh id, accepts it in a
goroutine, returns it; the client dials the returned id.  Both orders of the accept
and the dial are covered by the two theorems above; the accepted stream is the one the
dispense's own dial opened. -/
theorem dispense_reaches_its_server (P : Params) (hP : P.Good) (s : State) (h : Reachable P s) (n : Nat)
    (hfresh : s.map n = none) (hrun : s.run = .idle) (hq : s.queue = []) :
    (∃ s', runFrom P s [.accept n, .dial n, .runTake, .runPark, .accTake s.nAccs] = some s' ∧
        s'.streams s.nStreams = some ⟨n, .taken s.nAccs⟩) ∧
    (∃ s', runFrom P s [.dial n, .runTake, .runPark, .accept n, .accTake s.nAccs] = some s' ∧
        s'.streams s.nStreams = some ⟨n, .taken s.nAccs⟩) := by
  obtain ⟨s1, h1, _, h1'⟩ := accept_then_dial_succeeds P hP s h n hfresh hrun hq
  obtain ⟨s2, h2, _, h2'⟩ := dial_then_accept_succeeds P hP s h n hfresh hrun hq
  exact ⟨⟨s1, h1, h1'⟩, ⟨s2, h2, h2'⟩⟩


/-! ### Any number of concurrently outstanding distinct ids

The success theorems above run the five events of one establishment consecutively.  With everything that concerns
OTHER ids interleaved the establishment goes through all the same: an event about another id (or the clock) changes
nothing labelled n, and each of the three steps about n that complete it is enabled, and has the right effect, in
ANY state in which its own premise holds. -/

/-- **Frame**: an event about another id leaves the map entry, slots, Accept goroutines, streams and expiry
goroutines of id n untouched. -/
theorem distinct_ids_independent (P : Params) (n : Nat) (s s' : State) (e : Event)
    (h : Reachable P s) (hs : step P s e = some s') (hid : eventId s e ≠ some n) : SameFor n s s' :=
  other_ids_do_not_disturb P n s s' e (consistent_of_reachable P s h) hs hid

/-- A waiting Accept(n) — registered slot, its buffer, the goroutine — is exactly preserved by every event
that is not about n: only its own timer, its own take, or the expiry of a stream parked for n can change it. -/
theorem waiting_accept_stable (P : Params) (n g k : Nat) (a : Acc) (sl : Slot) (s s' : State) (e : Event)
    (h : Reachable P s) (ha : s.accs g = some a) (hai : a.id = n) (hk : s.slots k = some sl) (hsl : sl.id = n)
    (hm : s.map n = some k) (hs : step P s e = some s') (hid : eventId s e ≠ some n) :
    s'.accs g = some a ∧ s'.slots k = some sl ∧ s'.map n = some k := by
  have f := distinct_ids_independent P n s s' e h hs hid
  exact ⟨f.accs_eq g a ha hai, f.slots_eq k sl hk hsl, by rw [f.map_eq, hm]⟩

/-- When `Run` takes a stream dialled for n while n's slot k is registered, it picks slot k — in any state. -/
theorem dial_lands_in_waiting_slot (P : Params) (s : State) (sid : Nat) (q : List Nat) (n k : Nat)
    (hrun : s.run = .idle) (hq : s.queue = sid :: q) (hl : s.lock = none)
    (hx : s.streams sid = some ⟨n, .queued⟩) (hm : s.map n = some k) :
    ∃ s', step P s .runTake = some s' ∧ s'.run = .have n k sid ∧ s'.slots = s.slots ∧ s'.accs = s.accs := by
  simp [step, hrun, hq, hl, hx, getStream, hm, setStream]

/-- Parking into an empty slot succeeds — in any state. -/
theorem park_into_empty_slot (P : Params) (s : State) (n k sid : Nat) (sl : Slot)
    (hrun : s.run = .have n k sid) (hk : s.slots k = some sl) (hb : sl.buf = none) :
    ∃ s', step P s .runPark = some s' ∧ s'.slots k = some { sl with buf := some sid } ∧ s'.accs = s.accs ∧ s'.run = .idle := by
  simp [step, hrun, hk, hb, setStream, setSlot, upd]

/-- A waiting Accept whose slot holds a stream (and whose doneCh is open) can take it at once — in any state —
and returns exactly that stream. -/
theorem accept_takes_parked (P : Params) (s : State) (g : Nat) (a : Acc) (sl : Slot) (sid : Nat)
    (ha : s.accs g = some a) (hpc : a.pc = .wait) (hk : s.slots a.slot = some sl) (hb : sl.buf = some sid)
    (hd : sl.done = false) :
    ∃ s', step P s (.accTake g) = some s' ∧ (s'.accs g).map (·.pc) = some (.took sid) := by
  simp [step, ha, hpc, hk, hb, hd, setAcc, setStream, setSlot, upd]

/-! ### Non-vacuity: a history with three outstanding ids, an expired dial and a duplicate, then a fresh pair -/

def pGood : Params := ⟨true, true, true, true, 1, 5000, 5000⟩

def busyTrace : List Event :=
  [.dial 1, .dial 2, .accept 3, .runTake, .runPark, .runTake, .runPark, .dial 2, .runTake, .runPark,
   .accept 1, .accTake 1, .tick 5000, .twTimer 1, .twFinish 1, .accTimeout 0]

example : ∃ s, runFrom pGood init busyTrace = some s ∧ s.map 9 = none ∧ s.run = .idle ∧ s.queue = [] ∧
    (s.accs 1).map (·.pc) = some (.took 0) :=
  exists_some_of_any (by decide)

section Frame
open MuxFrame

/-- **Nothing the peer wrote after its header is lost or reordered**: whatever part of the peer's bytes had
already arrived when go-plugin read the 4-byte header (any split of the peer's output into "arrived" and
"later", for any header and any application bytes), the application reads exactly the peer's application bytes. -/
theorem app_bytes_complete (P : MuxFrame.Params) (hP : P.Good) (hdr app : Bytes) (hh : hdr.length = 4) (k : Nat) :
    readHeader P ((sent hdr app).take (4 + k)) ((sent hdr app).drop (4 + k)) = some (hdr, app) := by
  -- what has arrived is the header and the first `k` application bytes
  rw [sent, ← hh, List.take_length_add_append, List.drop_length_add_append]
  have h4 : ¬ (hdr ++ app.take k).length < 4 := by rw [List.length_append, hh]; omega
  rw [readHeader, if_neg h4, hP.headerReadExact, if_pos rfl, List.take_left' hh, List.drop_left' hh, List.take_append_drop]

/-- a write on a brokered connection never fails because of a deadline go-plugin left on it -/
theorem late_write_completes (P : MuxFrame.Params) (hP : P.Good) (w : Bool) : lateWrite P w = true := by
  simp [lateWrite, hP.noDeadlineLeft]

/-- reading the ack through a throw-away read-ahead buffer swallows what the acceptor wrote right behind it:
ack `7,0,0,0` and greeting `104,105` arriving in one burst — the application sees nothing -/
theorem readahead_witness :
    readHeader ⟨false, true⟩ [7, 0, 0, 0, 104, 105] [] = some ([7, 0, 0, 0], []) := by decide

/-- a write deadline left on the accepted connection makes a later window-bound write fail -/
theorem deadline_left_witness : lateWrite ⟨true, false⟩ true = false := by decide

example : readHeader ⟨true, true⟩ [7, 0, 0, 0, 104, 105] [33] = some ([7, 0, 0, 0], [104, 105, 33]) := by decide

end Frame

/-- **An `Accept` that times out leaves the broker usable** (the mutex is free again, whatever was or was not parked), **and
dialling a number never disturbs this side's own accept of the same number.** -/
theorem accept_bookkeeping (A : AcceptParams) (hA : A.Good) (nothingParked : Bool) (n m : Nat) :
    timeoutReleasesLock A nothingParked = true ∧ acceptSlotAfterDial A n m = true := by
  simp [timeoutReleasesLock, acceptSlotAfterDial, hA.timeoutArmStraight, hA.mapOwnedByAcceptSide]

/-- Witnesses: a timeout arm that waits for a last-moment stream keeps the mutex for ever when none comes; a `Dial` that
"releases" the entry of its number removes this side's waiting accept of the same number -/
theorem accept_bookkeeping_witnesses :
    timeoutReleasesLock ⟨false, true⟩ true = false ∧ acceptSlotAfterDial ⟨true, false⟩ 4 4 = false := by decide

end GoPlugin.Props.C06
