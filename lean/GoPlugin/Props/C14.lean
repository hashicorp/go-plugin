import GoPlugin.Model.Interop
import GoPlugin.Props.C16
/-
C14 — Host and plugin configurations interoperate exactly when compatible.

The configuration matrix: 54 host configurations (allowed-protocol list × transport security × multiplexing ×
launch method) × 16 plugin configurations (protocol × static TLS or not × advertises multiplexing × implements
AutoMTLS or ignores it).  A cell composes the byte-level models: the plugin prints `Serve.serveLine`, the host runs
`Handshake.start` on that line.  That the composition gives the verdict of the specification table is proved for
every configuration pair and for every good set of facts (`interop_good`, `legacy_good`): C16's round trip turns the
host's parse of the printed line into the field checks on the printed fields (`start_lineOf`), and those are checks
on the enum-valued fields of the two configurations.
-/
namespace GoPlugin.Interop.Params.Good
variable {I : Params} (h : I.Good)
include h
private theorem defaultAllowedNetrpcOnly : I.defaultAllowedNetrpcOnly = true := h.1
private theorem reattachMuxRefused : I.reattachMuxRefused = true := h.2.1
private theorem autoTlsAtStart : I.autoTlsAtStart = true := h.2.2.1
private theorem dialsUseTlsConfig : I.dialsUseTlsConfig = true := h.2.2.2.1
private theorem allowedCheckCoversDefault : I.allowedCheckCoversDefault = true := h.2.2.2.2.1
private theorem reattachChecksAllowed : I.reattachChecksAllowed = true := h.2.2.2.2.2
end GoPlugin.Interop.Params.Good

namespace GoPlugin.Props.C14
open Interop

def pGood : Handshake.Params := ⟨true, true, 4, 50, 1, true, true, true⟩
def iGood : Interop.Params := ⟨true, true, true, true, true, true⟩

private theorem connect_good (I : Interop.Params) (h1 : I.autoTlsAtStart = true) (h2 : I.dialsUseTlsConfig = true)
    (hc : HostC) (pc : PlugC) :
    connect I hc pc = if hostTls hc = plugTls hc pc then .works else .firstUseErr := by
  -- what the host's dial paths put on the wire is the mode the host asked for
  have hd : ∀ b, dialSec I (hostTlsAfterStart I hc b) = hostTls hc := by
    intro b
    simp only [dialSec, hostTlsAfterStart, h1, h2, if_true, Bool.true_or]
    cases hostTls hc <;> rfl
  simp only [connect, hd]
  split
  · next h => rw [if_neg fun h' => h'.1 h'.2]
  · rfl

private theorem wire_allowed (I : Interop.Params) (h : I.defaultAllowedNetrpcOnly = true) (hc : HostC) (pc : PlugC) :
    wireOf pc ∈ allowedList I hc.allowed ↔ protoAllowed hc pc = true := by
  -- three lists, two protocol names; what decides each case is that the two names differ
  have hne : Handshake.sGrpc ≠ Handshake.sNetrpc := by decide
  unfold wireOf allowedList protoAllowed
  cases hc.allowed <;> cases pc.grpc <;> simp [h, hne, hne.symm]

private theorem composeLine_reattach (I : Interop.Params) (P : Handshake.Params) (hI : I.Good) (hc : HostC) (pc : PlugC)
    (legacy : Bool) (hl : hc.launch = .reattach) : composeLine I P hc pc legacy = expected hc pc := by
  simp only [composeLine, expected, hl, true_and, hI.reattachMuxRefused, hI.reattachChecksAllowed, and_true, if_true,
    wire_allowed I hI.defaultAllowedNetrpcOnly, connect_good I hI.autoTlsAtStart hI.dialsUseTlsConfig]
  -- both sides are now the same tests on `hc.mux` and `protoAllowed hc pc`, nested differently
  cases hc.mux <;> cases protoAllowed hc pc <;> simp

private theorem hostTls_auto {hc : HostC} (ha : hc.sec = .auto) (hl : hc.launch ≠ .reattach) : hostTls hc = .auto := by
  simp [hostTls, ha, hl]

private theorem plugTls_eq_auto {hc : HostC} {pc : PlugC} :
    plugTls hc pc = .auto ↔ pc.sec = .none ∧ hc.sec = .auto ∧ hc.launch ≠ .reattach ∧ pc.noAuto = false := by
  unfold plugTls
  cases pc.sec <;> simp

private theorem plugTls_auto {hc : HostC} {pc : PlugC} (h : plugTls hc pc = .auto) : hostTls hc = .auto :=
  let ⟨_, hAuto, hLaunched, _⟩ := plugTls_eq_auto.1 h
  hostTls_auto hAuto hLaunched

/-- The byte-level part of a cell, for every cell at once: the host's parse of the line the plugin prints is
`afterAddr`'s field checks on the fields the two configurations dictate. -/
private theorem start_lineOf (I : Interop.Params) (P : Handshake.Params) (hP : P.Good) (hc : HostC) (pc : PlugC) :
    Handshake.start P (hostCfgOf I hc false) extOk (.line (lineOf hc pc)) =
      Handshake.deferred P (Handshake.afterAddr P (hostCfgOf I hc false) extOk
        ([wireOf pc, if plugTls hc pc = .auto then someCert else []] ++ (if hc.mux ∧ pc.advMux then [Serve.sTrue] else []))
        3 (some ⟨Handshake.sUnix, someAddr⟩)) := by
  have hm : (if hc.mux ∧ pc.advMux then Serve.sTrue else ([] : Bytes)) ≠ [] ↔ (hc.mux ∧ pc.advMux) := by
    split <;> simp_all [Serve.sTrue]
  simp only [Handshake.start, Handshake.body, lineOf]
  -- the side conditions of the round trip: no `|` in the printed strings, the certificate ends in a base64 byte
  rw [Props.C16.parseLine_serveLine P hP (ver := 3) (hlo := by decide) (hhi := by decide) (hn := by decide)
    (ha := by decide) (hp := by cases pc.grpc <;> decide) (hcb := by split <;> decide) (hcl := by split <;> decide)]
  simp [hostCfgOf, extOk, Handshake.resolve, wireOf, hm, show Handshake.sUnix ≠ Handshake.sTcp by decide]

/-- **The matrix, for every good set of facts and every configuration pair.** -/
theorem interop_good (I : Interop.Params) (P : Handshake.Params) (hI : I.Good) (hP : P.Good) (hc : HostC) (pc : PlugC) :
    compose I P hc pc = expected hc pc := by
  by_cases hl : hc.launch = .reattach
  · exact composeLine_reattach I P hI hc pc false hl
  · -- the certificate field is empty unless the plugin serves AutoMTLS, and then the host has its configuration
    have hcert : (if plugTls hc pc = .auto then someCert else []) = [] ∨
        (extOk.certParses (if plugTls hc pc = .auto then someCert else []) = true ∧ (hostCfgOf I hc false).hasTls = true) := by
      by_cases h : plugTls hc pc = .auto
      · exact Or.inr ⟨rfl, by simp [hostCfgOf, plugTls_auto h]⟩
      · exact Or.inl (if_neg h)
    have hg : (wireOf pc == Handshake.sGrpc) = pc.grpc := by
      unfold wireOf
      cases pc.grpc <;> decide
    simp only [compose, composeLine, expected, hl, false_and, if_false, Bool.false_eq_true, start_lineOf I P hP,
      Handshake.afterAddr, Handshake.protoOf, List.cons_append, List.nil_append,
      Handshake.certCheck_pass P hP.certNilGuard _ _ _ _ _ hcert, Handshake.muxCheck_printed, hg,
      show (hostCfgOf I hc false).allowed = allowedList I hc.allowed from rfl,
      show (hostCfgOf I hc false).mux = hc.mux from rfl, wire_allowed I hI.defaultAllowedNetrpcOnly,
      connect_good I hI.autoTlsAtStart hI.dialsUseTlsConfig]
    -- both sides are now the same three tests (protocol, multiplexing, security modes) on these four Booleans
    cases hc.mux <;> cases protoAllowed hc pc <;> cases pc.grpc <;> cases pc.advMux <;>
      simp [Handshake.deferred, classify]

theorem interop (hc : HostC) (pc : PlugC) : compose iGood pGood hc pc = expected hc pc :=
  interop_good iGood pGood (by decide) (by decide) hc pc

/-- **The whole matrix**: in every cell the composition of the plugin's printed line, the host's
parse and the two transport-security modes gives exactly the verdict of the specification table. -/
theorem interop_matrix : ∀ hc ∈ allHost, ∀ pc ∈ allPlug, compose iGood pGood hc pc = expected hc pc :=
  fun hc _ pc _ => interop hc pc

theorem expected_ne_broken (hc : HostC) (pc : PlugC) : expected hc pc ≠ .broken := by
  -- no arm of `expected` returns `.broken`
  fun_cases expected hc pc <;> simp

private theorem expected_launched {hc : HostC} {pc : PlugC} (hl : hc.launch ≠ .reattach) (hp : protoAllowed hc pc = true)
    (hm : hc.mux = true → pc.grpc = true → pc.advMux = true) :
    expected hc pc = if hostTls hc = plugTls hc pc then .works else .firstUseErr := by
  -- `hl`, `hp` and `hm` exclude every arm of `expected` but the last two
  fun_cases expected hc pc <;> simp_all

/-- **Never a panic or a silent nil start.** -/
theorem never_broken (hc : HostC) (pc : PlugC) : compose iGood pGood hc pc ≠ .broken :=
  interop hc pc ▸ expected_ne_broken hc pc

/-- **The client never speaks a protocol outside its allowed list** — for every launch method, reattach included (there
the protocol comes from the reattach configuration, and is checked against the list all the same). -/
theorem works_protocol_allowed (hc : HostC) (pc : PlugC)
    (h : compose iGood pGood hc pc = .works) : protoAllowed hc pc = true := by
  rw [interop] at h
  revert h
  -- the arms of `expected` that are reached with the protocol not allowed are start errors
  fun_cases expected hc pc <;> simp_all

/-- **Requesting multiplexing from a plugin that does not advertise it fails with the dedicated error**
(whenever the protocol itself is allowed and it is gRPC). -/
theorem mux_not_advertised (hc : HostC) (pc : PlugC) (hl : hc.launch ≠ .reattach) (hm : hc.mux = true)
    (hg : pc.grpc = true) (ha : pc.advMux = false) (hp : protoAllowed hc pc = true) :
    compose iGood pGood hc pc = .startErr .mux := by
  rw [interop]; simp [expected, hl, hm, hg, ha, hp]

/-- **Protocol and multiplexing mismatches surface at start**, transport-security mismatches on first use. -/
theorem mismatch_classes (hc : HostC) (pc : PlugC) :
    compose iGood pGood hc pc = .works ∨
    (∃ k, compose iGood pGood hc pc = .startErr k ∧ (k = .protocol ∨ k = .mux ∨ k = .optionConflict)) ∨
    (compose iGood pGood hc pc = .firstUseErr ∧ hostTls hc ≠ plugTls hc pc) := by
  rw [interop]
  -- every arm of `expected` is `works`, one of the three start errors, or `firstUseErr` under `hostTls hc ≠ plugTls hc pc`
  fun_cases expected hc pc <;> simp [*]

/-- **Compatible configurations work**: allowed protocol, multiplexing consistent, equal security modes. -/
theorem compatible_works (hc : HostC) (pc : PlugC) (hl : hc.launch ≠ .reattach) (hp : protoAllowed hc pc = true)
    (hm : hc.mux = true → pc.grpc = true → pc.advMux = true) (ht : hostTls hc = plugTls hc pc) :
    compose iGood pGood hc pc = .works := by
  rw [interop, expected_launched hl hp hm, if_pos ht]

/-- Reattach with multiplexing is refused before anything happens. -/
theorem reattach_mux_conflict (hc : HostC) (pc : PlugC) (hl : hc.launch = .reattach) (hm : hc.mux = true) :
    compose iGood pGood hc pc = .startErr .optionConflict := by
  rw [interop]; simp [expected, hl, hm]

/-! ### Witnesses: the three facts about the option checks matter -/

/-- if `NewClient`'s default were {netrpc, grpc}, a host that never opted in to gRPC would speak it -/
theorem default_allowed_witness :
    compose ⟨false, true, true, true, true, true⟩ pGood ⟨.dflt, .none, false, .cmd⟩ ⟨true, .none, true, false⟩ = .works ∧
    expected ⟨.dflt, .none, false, .cmd⟩ ⟨true, .none, true, false⟩ = .startErr .protocol := by decide

/-- if Reattach + multiplexing were not refused, the client would go on without multiplexing set up -/
theorem reattach_mux_witness :
    compose ⟨true, false, true, true, true, true⟩ pGood ⟨.both, .none, true, .reattach⟩ ⟨true, .none, true, false⟩ = .works ∧
    expected ⟨.both, .none, true, .reattach⟩ ⟨true, .none, true, false⟩ = .startErr .optionConflict := by decide

/-- if `reattach()` did not look at the allowed list, a host that never opted in to gRPC would speak gRPC to a plugin it
reattaches to (the former defect D17) -/
theorem reattach_allowed_witness :
    compose ⟨true, true, true, true, true, false⟩ pGood ⟨.dflt, .none, false, .reattach⟩ ⟨true, .none, true, false⟩ = .works ∧
    expected ⟨.dflt, .none, false, .reattach⟩ ⟨true, .none, true, false⟩ = .startErr .protocol := by decide

/-- if the default allowed list were {netrpc, grpc}, a gRPC plugin would be accepted by a host that
never opted in: the specification table says protocol error there -/
example : expected ⟨.dflt, .none, false, .cmd⟩ ⟨true, .none, true, false⟩ = .startErr .protocol :=
  default_allowed_witness.2
example : compose iGood pGood ⟨.both, .none, false, .cmd⟩ ⟨true, .none, true, false⟩ = .works := by decide

/-! ### Never a silently downgraded connection

`Verdict.downgraded` = the host asked for transport security that applies to this launch
(`hostTls hc ≠ none`: a static `TLSConfig`, or AutoMTLS with a plugin it launches), `Start`
succeeded, and the first use completes although the bytes on the wire are plaintext.  These
theorems are about the composition itself — for EVERY value of the other facts, every
`Handshake.Params` and every configuration pair — and need exactly the two facts
`autoTlsAtStart` and `dialsUseTlsConfig`. -/

private theorem composeLine_secure (I : Interop.Params) (P : Handshake.Params)
    (h1 : I.autoTlsAtStart = true) (h2 : I.dialsUseTlsConfig = true) (hc : HostC) (pc : PlugC) (legacy : Bool) :
    composeLine I P hc pc legacy ≠ .downgraded ∧ (composeLine I P hc pc legacy = .works → hostTls hc = plugTls hc pc) := by
  have hconn : connect I hc pc ≠ .downgraded ∧ (connect I hc pc = .works → hostTls hc = plugTls hc pc) := by
    rw [connect_good I h1 h2]
    split <;> simp [*]
  -- the arms of `composeLine`: 3 (reattached) and 4 (`Start` succeeded) are `connect I hc pc`, the others a start error
  -- or a broken start
  fun_cases composeLine I P hc pc legacy
  case case3 | case4 => exact hconn
  all_goals simp

/-- **Never a silently downgraded connection**: for every configuration pair, whatever the plugin
answers — in particular when it ignores AutoMTLS and sends no certificate. -/
theorem never_downgraded (I : Interop.Params) (P : Handshake.Params)
    (h1 : I.autoTlsAtStart = true) (h2 : I.dialsUseTlsConfig = true) (hc : HostC) (pc : PlugC) :
    compose I P hc pc ≠ .downgraded := (composeLine_secure I P h1 h2 hc pc false).1

theorem never_downgraded_good (I : Interop.Params) (P : Handshake.Params) (hI : I.Good) (hc : HostC) (pc : PlugC) :
    compose I P hc pc ≠ .downgraded :=
  never_downgraded I P hI.autoTlsAtStart hI.dialsUseTlsConfig hc pc

/-- **A host that asked for transport security only ever completes a call over a connection secured in
the mode it asked for**: `works` implies that the plugin's side is in the host's mode. -/
theorem works_same_security (I : Interop.Params) (P : Handshake.Params)
    (h1 : I.autoTlsAtStart = true) (h2 : I.dialsUseTlsConfig = true) (hc : HostC) (pc : PlugC)
    (h : compose I P hc pc = .works) : hostTls hc = plugTls hc pc := (composeLine_secure I P h1 h2 hc pc false).2 h

/-- **An AutoMTLS host never completes a call over a plaintext connection**: if a host with AutoMTLS
launches a plugin and the first use works, the plugin implements AutoMTLS (it took the host's
certificate, answered with its own, and serves mutual TLS). -/
theorem automtls_never_plaintext (I : Interop.Params) (P : Handshake.Params) (hI : I.Good) (hc : HostC) (pc : PlugC)
    (ha : hc.sec = .auto) (hl : hc.launch ≠ .reattach) (h : compose I P hc pc = .works) :
    plugTls hc pc = .auto ∧ pc.noAuto = false := by
  have e : plugTls hc pc = .auto :=
    (works_same_security I P hI.autoTlsAtStart hI.dialsUseTlsConfig hc pc h).symm.trans (hostTls_auto ha hl)
  obtain ⟨-, -, -, hImplements⟩ := plugTls_eq_auto.1 e
  exact ⟨e, hImplements⟩

/-- … and with a plugin that ignores AutoMTLS the mismatch surfaces as an error on first use
(protocol allowed, multiplexing consistent). -/
theorem automtls_ignored_fails_first_use (hc : HostC) (pc : PlugC) (ha : hc.sec = .auto) (hl : hc.launch ≠ .reattach)
    (hn : pc.noAuto = true) (hp : protoAllowed hc pc = true)
    (hm : hc.mux = true → pc.grpc = true → pc.advMux = true) :
    compose iGood pGood hc pc = .firstUseErr := by
  have hpt : plugTls hc pc ≠ .auto := fun h => by
    obtain ⟨-, -, -, hImplements⟩ := plugTls_eq_auto.1 h
    simp [hImplements] at hn
  rw [interop, expected_launched hl hp hm, hostTls_auto ha hl, if_neg fun h => hpt h.symm]

/-! ### Witnesses: both transport-security facts matter -/

/-- `autoTlsAtStart` false (the configuration is only built by `loadServerCert`, i.e. when the line
carries a certificate): AutoMTLS host, net/rpc plugin that ignores AutoMTLS — `Start` succeeds and the
call completes in plaintext; the specification says first-use error. -/
theorem auto_tls_at_start_witness :
    compose ⟨true, true, false, true, true, true⟩ pGood ⟨.dflt, .auto, false, .cmd⟩ ⟨false, .none, true, true⟩ = .downgraded ∧
    expected ⟨.dflt, .auto, false, .cmd⟩ ⟨false, .none, true, true⟩ = .firstUseErr := by decide

/-- the same over gRPC, launched through a custom runner -/
theorem auto_tls_at_start_witness_grpc :
    compose ⟨true, true, false, true, true, true⟩ pGood ⟨.grpcOnly, .auto, true, .runner⟩ ⟨true, .none, true, true⟩ = .downgraded ∧
    expected ⟨.grpcOnly, .auto, true, .runner⟩ ⟨true, .none, true, true⟩ = .firstUseErr := by decide

/-- … while with that fact false a plugin that does answer AutoMTLS still works: the defect is invisible
on the diagonal -/
theorem auto_tls_at_start_invisible_on_diagonal :
    compose ⟨true, true, false, true, true, true⟩ pGood ⟨.dflt, .auto, false, .cmd⟩ ⟨false, .none, true, false⟩ = .works := by decide

/-- `dialsUseTlsConfig` false (a dial path that ignores `config.TLSConfig`): a host with a static
`TLSConfig` talks plaintext to a plaintext plugin without any error -/
theorem dials_use_tls_witness :
    compose ⟨true, true, true, false, true, true⟩ pGood ⟨.both, .static, false, .cmd⟩ ⟨true, .none, true, false⟩ = .downgraded ∧
    expected ⟨.both, .static, false, .cmd⟩ ⟨true, .none, true, false⟩ = .firstUseErr := by decide

/-! ### The legacy (four-field) handshake line

A plugin built before the protocol field existed prints `CORE|APP|NETWORK|ADDR` and serves net/rpc;
the host defaults the protocol to net/rpc.  The allowed-protocol list must apply to that default too. -/

/-- the one byte-level evaluation: `TrimSpace` and `Split` on the constant four-field line -/
private theorem parse_legacyLine : Go.split Handshake.bar (Go.trimSpace legacyLine) = [Go.itoa 1, Go.itoa 3, Handshake.sUnix, someAddr] := by
  decide

private theorem start_legacyLine (P : Handshake.Params) (hP : P.Good) (c : Handshake.HostCfg) (hv : 3 ∈ c.versions) :
    Handshake.start P c extOk (.line legacyLine) =
      Handshake.deferred P (if Handshake.sNetrpc ∈ c.allowed then .ok ⟨Handshake.sUnix, someAddr⟩ Handshake.sNetrpc 3
        else .err .protocol) := by
  rw [Handshake.start, Handshake.body,
    Handshake.parseLine_of_fields P hP c extOk legacyLine _ _ _ _ [] 3 parse_legacyLine (by decide) (by decide)]
  -- no fields after the fourth: the protocol is the default, there is no certificate, and net/rpc is not multiplexed
  simp [hv, extOk, Handshake.resolve, Handshake.afterAddr, Handshake.protoOf, Handshake.certCheck, Handshake.muxCheck,
    show Handshake.sUnix ≠ Handshake.sTcp by decide, show (Handshake.sNetrpc == Handshake.sGrpc) = false by decide]

/-- **The legacy line, for every good set of facts and every host configuration.** -/
theorem legacy_good (I : Interop.Params) (P : Handshake.Params) (hI : I.Good) (hP : P.Good) (hc : HostC) (s : PSec) :
    composeLegacy I P hc s = expected hc (legacyPlug s) := by
  by_cases hl : hc.launch = .reattach
  · exact composeLine_reattach I P hI hc (legacyPlug s) true hl
  · -- with `allowedCheckCoversDefault` the defaulted protocol meets the host's own list
    have ha : (hostCfgOf I hc true).allowed = allowedList I hc.allowed := by
      simp [hostCfgOf, hI.allowedCheckCoversDefault]
    have hw : Handshake.sNetrpc ∈ allowedList I hc.allowed ↔ protoAllowed hc (legacyPlug s) = true :=
      wire_allowed I hI.defaultAllowedNetrpcOnly hc (legacyPlug s)
    simp only [composeLegacy, composeLine, expected, hl, false_and, if_false, if_true,
      start_legacyLine P hP (hostCfgOf I hc true) (List.mem_singleton.2 rfl), ha, hw,
      connect_good I hI.autoTlsAtStart hI.dialsUseTlsConfig]
    cases protoAllowed hc (legacyPlug s) <;> simp [Handshake.deferred, classify, legacyPlug]

private theorem legacy_interop (hc : HostC) (s : PSec) : composeLegacy iGood pGood hc s = expected hc (legacyPlug s) :=
  legacy_good iGood pGood (by decide) (by decide) hc s

/-- **A plugin announcing itself with the legacy line is treated exactly like the net/rpc plugin it is**
— in every host configuration, with or without a static TLS provider. -/
theorem legacy_matrix : ∀ hc ∈ allHost, ∀ s ∈ [PSec.none, .static], composeLegacy iGood pGood hc s = expected hc (legacyPlug s) :=
  fun hc _ s _ => legacy_interop hc s

/-- **The client never speaks a protocol outside its allowed list — also when the protocol was defaulted**:
a host that allows only gRPC refuses the legacy plugin at start, with the protocol error. -/
theorem legacy_refused_by_grpc_only (hc : HostC) (s : PSec) (hl : hc.launch ≠ .reattach) (ha : hc.allowed = .grpcOnly) :
    composeLegacy iGood pGood hc s = .startErr .protocol := by
  rw [legacy_interop]; simp [expected, hl, protoAllowed, ha, legacyPlug]

theorem legacy_works_protocol_allowed (hc : HostC) (s : PSec) (hl : hc.launch ≠ .reattach)
    (h : composeLegacy iGood pGood hc s = .works) : hc.allowed ≠ .grpcOnly := by
  intro ha
  rw [legacy_refused_by_grpc_only hc s hl ha] at h
  simp at h

theorem legacy_never_broken_or_downgraded (hc : HostC) (s : PSec) :
    composeLegacy iGood pGood hc s ≠ .broken ∧ composeLegacy iGood pGood hc s ≠ .downgraded :=
  ⟨legacy_interop hc s ▸ expected_ne_broken hc _, (composeLine_secure iGood pGood rfl rfl hc (legacyPlug s) true).1⟩

/-- `allowedCheckCoversDefault` false (the check sits inside `if len(parts) >= 5`): a gRPC-only host starts
the legacy plugin and speaks net/rpc to it -/
theorem allowed_check_default_witness :
    composeLegacy ⟨true, true, true, true, false, true⟩ pGood ⟨.grpcOnly, .none, false, .cmd⟩ .none = .works ∧
    expected ⟨.grpcOnly, .none, false, .cmd⟩ (legacyPlug .none) = .startErr .protocol := by decide

/-- … while every plugin that prints the protocol field is unaffected by that fact: the defect is
invisible in the 864-cell matrix -/
theorem allowed_check_default_invisible_in_matrix :
    ∀ hc ∈ allHost, ∀ pc ∈ allPlug, compose ⟨true, true, true, true, false, true⟩ pGood hc pc = expected hc pc :=
  -- `compose` passes `legacy := false`, and `hostCfgOf` reads the fact only under `legacy && _`
  fun hc _ pc _ => interop hc pc

example : composeLegacy iGood pGood ⟨.dflt, .none, false, .cmd⟩ .none = .works := by decide
example : composeLegacy iGood pGood ⟨.grpcOnly, .none, false, .cmd⟩ .none = .startErr .protocol := by decide
example : compose iGood pGood ⟨.dflt, .auto, false, .cmd⟩ ⟨false, .none, true, true⟩ = .firstUseErr := by decide
example : compose iGood pGood ⟨.dflt, .auto, false, .cmd⟩ ⟨false, .none, true, false⟩ = .works := by decide
example : ∃ hc pc, hc.sec = .auto ∧ hc.launch ≠ .reattach ∧ compose iGood pGood hc pc = .works :=
  ⟨⟨.dflt, .auto, false, .cmd⟩, ⟨false, .none, true, false⟩, by decide⟩

end GoPlugin.Props.C14
