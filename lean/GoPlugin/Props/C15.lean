import GoPlugin.Lemmas.Lifecycle
/-
C15 — Reattach reaches the same live plugin; test mode never kills the server.

`Lifecycle` model with `Launch.reattach test`: the already running plugin
instance is process 0 (`State.target`); the environment decides whether it is
alive when the client starts and may let it die at any time.
-/
namespace GoPlugin.Props.C15
open Lifecycle

/-- **Reattaching to a live plugin yields that same instance** (its address), launches nothing, and
(outside test mode) records it as the process to kill. -/
theorem reattach_same_instance (P : Params) (hP : P.Good) (test : Bool) :
    ∃ s, step P (init (.reattach test) true) (.start true) = some s ∧
      s.outs = [.okAddr 0] ∧ s.addr = some 0 ∧ s.launches = 0 ∧
      s.runner = (if test then none else some 0) := by
  cases test <;> simp [step, doStart, init, emit, hP.addrShortCircuit, hP.testModeNoRunner]

/-- **Reattaching when nothing is there fails** (process-not-found) and changes nothing. -/
theorem reattach_dead_not_found (P : Params) (test : Bool) :
    ∃ s, step P (init (.reattach test) false) (.start true) = some s ∧ s.outs = [.err] ∧ s.addr = none ∧ s.runner = none := by
  cases test <;> cases h : P.addrShortCircuit <;> simp [step, doStart, init, emit, h]

/-- **Killing through the reattached client terminates that plugin** (outside test mode). -/
theorem kill_via_reattached_kills_instance (P : Params) (hP : P.Good) (a b : Bool) :
    ∃ s, runFrom P (init (.reattach false) true) [.start true, .killA a b, .killB] = some s ∧ s.procs 0 = some false := by
  cases b <;> simp [runFrom, step, doStart, doClient, init, emit, updP, hP.addrShortCircuit, hP.clientCached,
    hP.testModeNoRunner]

/-- **In test mode the client never holds a handle on the server process**, in any reachable state … -/
theorem test_mode_never_records_runner (P : Params) (hP : P.Good) (alive : Bool) (s : State)
    (h : Reachable P (.reattach true) alive s) : s.runner = none :=
  (TestClient.of_reachable hP h).norunner

/-- … **so Kill on the reattached client leaves the serving process exactly as it was**: no client
operation changes the liveness of the server; it stops only by itself (its context is cancelled). -/
theorem test_mode_kill_is_noop_on_server (P : Params) (hP : P.Good) (alive : Bool) (s s' : State)
    (h : Reachable P (.reattach true) alive s) (a b : Bool) (hs : step P s (.killA a b) = some s') :
    s'.procs = s.procs ∧ s'.kills = s.kills :=
  have ⟨hProcs, hKills, _⟩ := killA_noop P (test_mode_never_records_runner P hP alive s h) hs
  ⟨hProcs, hKills⟩

/-- Witness: if test mode recorded the runner, Kill would kill the server. -/
theorem test_mode_records_runner_witness :
    ∃ s, runFrom ⟨true, true, true, true, false, true, true⟩ (init (.reattach true) true) [.start true, .killA true true, .killB] = some s ∧
      s.procs 0 = some false :=
  exists_some_of_any (by decide)

/-! ### Reattaching several times: clients built from a reattached client's `ReattachConfig()`

`chain P s es rest`: the first client runs the history `es`; for every further history a NEW client is
built from `ReattachConfig()` of the current one (`nextGen`) and runs it.  The process table is shared. -/

/-- **Test mode is inherited along any chain of reattach-from-`ReattachConfig()`**: whatever each
generation did before, the last client is again a test-mode client and holds no handle on the server. -/
theorem test_chain_never_records_runner (P : Params) (hP : P.Good) (alive : Bool) (es : List Event)
    (rest : List (List Event)) (s : State) (h : chain P (init (.reattach true) alive) es rest = some s) :
    s.launch = .reattach true ∧ s.runner = none := by
  obtain ⟨s1, hr, h⟩ := chain_some h
  have hs := ((TestClient.of_reachable hP ⟨es, hr⟩).chainFrom hP h).1
  exact ⟨hs.launch, hs.norunner⟩

/-- … **so Kill through a client of any generation leaves the serving process exactly as it was.** -/
theorem test_chain_kill_is_noop_on_server (P : Params) (hP : P.Good) (alive : Bool) (es : List Event)
    (rest : List (List Event)) (s s' : State) (h : chain P (init (.reattach true) alive) es rest = some s)
    (a b : Bool) (hs : step P s (.killA a b) = some s') : s'.procs = s.procs ∧ s'.kills = s.kills :=
  have ⟨hProcs, hKills, _⟩ := killA_noop P (test_chain_never_records_runner P hP alive es rest s h).2 hs
  ⟨hProcs, hKills⟩

/-- **The plugin stops only by itself**: along any chain of test-mode clients — any number of
generations, any operations (Start, Client, Kill, …) in any order on each — the process table is
exactly the initial one unless the server process dies on its own (a `procDies` event). -/
theorem test_chain_server_untouched (P : Params) (hP : P.Good) (alive : Bool) (es : List Event)
    (rest : List (List Event)) (s : State) (h : chain P (init (.reattach true) alive) es rest = some s)
    (hne : ∀ es' ∈ es :: rest, ∀ e ∈ es', ∀ p, e ≠ .procDies p) :
    s.procs = (init (.reattach true) alive).procs := by
  obtain ⟨s1, hr, h⟩ := chain_some h
  obtain ⟨h1, hp1⟩ := (TestClient.init alive).runFrom hP hr
  obtain ⟨-, hp⟩ := h1.chainFrom hP h
  exact (hp fun es' he' => hne es' (List.mem_cons_of_mem _ he')).trans (hp1 (hne es List.mem_cons_self))

/-- **Outside test mode, Kill through a second-generation client terminates that same plugin.** -/
theorem chain_kill_kills_instance (P : Params) (hP : P.Good) (a b : Bool) :
    ∃ s, chain P (init (.reattach false) true) [.start true] [[.start true, .killA a b, .killB]] = some s ∧
      s.procs 0 = some false := by
  cases b <;> simp [chain, chainFrom, nextGen, reattachConfigOf, runFrom, step, doStart, doClient, init, emit, updP,
    hP.addrShortCircuit, hP.clientCached, hP.testModeNoRunner]

/-- … and a client built from the `ReattachConfig()` of a client that LAUNCHED the plugin reaches
that instance and can kill it. -/
theorem chain_from_launcher_kills_instance (P : Params) (hP : P.Good) (a b : Bool) :
    ∃ s, chain P (init .cmd false) [.start true] [[.start true, .killA a b, .killB]] = some s ∧
      s.addr = some 0 ∧ s.procs 0 = some false := by
  cases b <;> simp [chain, chainFrom, nextGen, reattachConfigOf, runFrom, step, doStart, doClient, init, emit, updP,
    hP.retryGuard, hP.addrShortCircuit, hP.clientCached, hP.testModeNoRunner]

/-- Witness: if `ReattachConfig()` of a reattached client dropped the `Test` flag, Kill through a
second-generation client would kill a test-mode server — while a first-generation client (the only
thing a single reattach exercises) behaves correctly with the same facts. -/
theorem reattach_config_drops_test_witness :
    (∃ s, chain ⟨true, true, true, true, true, false, true⟩ (init (.reattach true) true) [.start true]
        [[.start true, .killA true true, .killB]] = some s ∧ s.launch = .reattach false ∧ s.procs 0 = some false) ∧
    (∃ s, chain ⟨true, true, true, true, true, false, true⟩ (init (.reattach true) true)
        [.start true, .killA true true] [] = some s ∧ s.procs 0 = some true) :=
  ⟨exists_some_of_any (by decide), exists_some_of_any (by decide)⟩

/-- non-vacuity: three generations in test mode, Kill on each; the server dies only by itself -/
example : ∃ s, chain ⟨true, true, true, true, true, true, true⟩ (init (.reattach true) true) [.start true, .killA true true]
    [[.client true true, .killA true true], [.start true, .killA true true, .procDies 0]] = some s ∧
    s.launch = .reattach true ∧ s.procs 0 = some false ∧ s.kills = 0 :=
  exists_some_of_any (by decide)

/-- non-vacuity: test mode, the server dies only by itself -/
example : ∃ s, runFrom ⟨true, true, true, true, true, true, true⟩ (init (.reattach true) true)
    [.start true, .client true true, .killA true true, .procDies 0] = some s ∧ s.procs 0 = some false ∧ s.kills = 0 :=
  exists_some_of_any (by decide)

/-- **A running plugin stays reachable until somebody asks it to quit**: after any history of host connections made
and dropped (a crashed host, an earlier reattached client that went away), it is still serving — exactly when no
`Control.Quit` was sent. -/
theorem server_up_until_quit (S : ServerParams) (hS : S.Good) (h : List ConnEv) :
    serverUp S h = !h.contains .quit := by
  have hq : S.doneOnlyOnQuit = true := hS
  induction h with
  | nil => rfl
  | cons e r ih => cases e <;> simp [serverUp, hq, ih]

/-- ending the server whenever a connection's control stream ends: one dropped connection and nobody can reattach -/
theorem server_dies_on_drop_witness : serverUp ⟨false⟩ [.connect, .drop, .connect] = false := by decide

example : serverUp ⟨true⟩ [.connect, .drop, .connect, .drop] = true := by decide

/-- **Reattaching when nothing is listening fails with the process-not-found error** — also when the target crashed and
left its socket file behind. -/
theorem crashed_target_not_found (R : ReattachParams) (hR : R.Good) (socketFileLeft : Bool) :
    reattachNotFound R socketFileLeft = true := by
  simp [reattachNotFound, hR.probeConnects]

/-- a probe that only looks for the socket file reattaches to a crashed plugin's left-over file -/
theorem stat_probe_witness : reattachNotFound ⟨false, true, 1000⟩ true = false := by decide

end GoPlugin.Props.C15
