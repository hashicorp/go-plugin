import GoPlugin.Props.C15
import GoPlugin.Generated.Facts
import GoPlugin.Props.Hygiene
/- C15 at the facts extracted from the current source. -/
namespace GoPlugin.Instance.C15
open Lifecycle Props.C15

theorem facts_good : Facts.lifecycle.Good := by decide

theorem holds_test_mode_kill_is_noop (alive : Bool) (s s' : State) (h : Reachable Facts.lifecycle (.reattach true) alive s)
    (a b : Bool) (hs : step Facts.lifecycle s (.killA a b) = some s') : s'.procs = s.procs ∧ s'.kills = s.kills :=
  test_mode_kill_is_noop_on_server _ facts_good alive s s' h a b hs

theorem holds_reattach_same_instance (test : Bool) :
    ∃ s, step Facts.lifecycle (init (.reattach test) true) (.start true) = some s ∧
      s.outs = [.okAddr 0] ∧ s.addr = some 0 ∧ s.launches = 0 ∧ s.runner = (if test then none else some 0) :=
  reattach_same_instance _ facts_good test

/-- at the current source: along any chain of reattach-from-ReattachConfig in test mode the last client
is a test-mode client without a handle on the server … -/
theorem holds_test_chain_never_records_runner (alive : Bool) (es : List Event) (rest : List (List Event)) (s : State)
    (h : chain Facts.lifecycle (init (.reattach true) alive) es rest = some s) : s.launch = .reattach true ∧ s.runner = none :=
  test_chain_never_records_runner _ facts_good alive es rest s h

/-- … and the server's liveness is untouched unless it dies by itself -/
theorem holds_test_chain_server_untouched (alive : Bool) (es : List Event) (rest : List (List Event)) (s : State)
    (h : chain Facts.lifecycle (init (.reattach true) alive) es rest = some s)
    (hne : ∀ es' ∈ es :: rest, ∀ e ∈ es', ∀ p, e ≠ .procDies p) : s.procs = (init (.reattach true) alive).procs :=
  test_chain_server_untouched _ facts_good alive es rest s h hne

theorem server_facts_good : Facts.rpcServer.Good := by decide

theorem holds_server_up_until_quit (h : List Lifecycle.ConnEv) :
    Lifecycle.serverUp Facts.rpcServer h = !h.contains .quit :=
  server_up_until_quit _ server_facts_good h

theorem holds_crashed_target_not_found (socketFileLeft : Bool) : Lifecycle.reattachNotFound Facts.reattachProbe socketFileLeft = true :=
  Props.C15.crashed_target_not_found _ (by decide) socketFileLeft

theorem holds_dead_plugin_never_found (k : Nat) : Hygiene.reattachFinds Facts.reattachFuncProbe k false = false :=
  Props.Hygiene.dead_plugin_never_found _ (by decide) k

end GoPlugin.Instance.C15
