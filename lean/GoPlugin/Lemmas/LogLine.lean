import GoPlugin.Model.LogLine
import GoPlugin.Model.Scanner
/-
Specification vocabulary and helper lemmas for C10 (the property theorems are in
`Props/C10.lean`).

Vocabulary:
* `crlfToLf`      — a byte stream with every `\r\n` replaced by `\n`, nothing else touched;
* `dropCR`        — one trailing `\r` removed;
* `render`        — what `logStderr` writes to `config.Stderr` for a sequence of `ReadLine` results;
* `finalNewline`  — `[10]` exactly when the host appends a `\n` the plugin never wrote;
* `specText`      — level table for plain lines (prefix lookup + panic-trace state);
* `expected`      — the record a complete line must produce.
-/
namespace GoPlugin.Scanner.DrainParams.Good
variable {P : DrainParams} (h : P.Good)
include h
theorem drainsLines : P.drainsLines = true := h.1
theorem drainsAfterScannerError : P.drainsAfterScannerError = true := h.2
end GoPlugin.Scanner.DrainParams.Good

namespace GoPlugin.LogLine

namespace Params.Good
variable {P : Params} (h : P.Good)
include h
theorem checkedAssertions : P.checkedAssertions = true := h.1
theorem kvAllKept : P.kvAllKept = true := h.2
end Params.Good

namespace ReaderParams.Good
variable {R : ReaderParams} (h : R.Good)
include h
theorem endsOnlyOnReadError : R.endsOnlyOnReadError = true := h.1
theorem readsFromStart : R.readsFromStart = true := h.2.1
theorem waitedBeforeProcWait : R.waitedBeforeProcWait = true := h.2.2
end ReaderParams.Good

def crlfToLf : Bytes → Bytes
  | [] => []
  | c :: rest => if c = 13 ∧ rest.head? = some 10 then crlfToLf rest else c :: crlfToLf rest

theorem getLast?_append_ne {α} (a b : List α) (h : b ≠ []) : (a ++ b).getLast? = b.getLast? := by
  cases b with
  | nil => exact absurd rfl h
  | cons x xs => rw [List.getLast?_append, List.getLast?_cons, Option.some_or]

theorem bufSize_ge (n : Nat) : 16 ≤ bufSize n := by unfold bufSize; omega

def render (rs : List (Bytes × Bool)) : Bytes := rs.flatMap fun lp => lp.1 ++ if lp.2 then [] else [10]

def finalNL (rs : List (Bytes × Bool)) (s : Bytes) : Bytes :=
  match rs.getLast? with
  | some (_, false) => if s.getLast? = some 10 then [] else [10]
  | _ => []

def dropCR : Bytes → Bytes
  | [] => []
  | [c] => if c = 13 then [] else [c]
  | c :: d :: rest => c :: dropCR (d :: rest)

theorem dropCR_cons (c : UInt8) (cs : Bytes) (h : ¬ (c = 13 ∧ cs = [])) : dropCR (c :: cs) = c :: dropCR cs := by
  cases cs with
  | nil => simp [dropCR, show c ≠ 13 from fun e => h ⟨e, rfl⟩]
  | cons d ds => simp [dropCR]

theorem not_crlf (c : UInt8) (cs t : Bytes) (hcs : 10 ∉ cs) (h : ¬ (c = 13 ∧ cs = [])) :
    ¬ (c = 13 ∧ (cs ++ t).head? = some 10) := by
  rintro ⟨h13, hd⟩
  cases cs with
  | nil => exact h ⟨h13, rfl⟩
  | cons d ds => exact hcs (Option.some.inj hd ▸ List.mem_cons_self)

/-- `ReadSlice` on a stream that starts with the bytes `y` (no `\n` in them): `y` is all there is, or a `\n`
follows, or `y` fills the buffer first — then whatever follows `y` is not looked at. -/
theorem slice_line : ∀ (k : Nat) (y : Bytes), 10 ∉ y →
    (y.length < k → slice k y = .eof y ∧ ∀ rest, slice k (y ++ 10 :: rest) = .nl (dropCR y) rest) ∧
    (k ≤ y.length → ∃ chunk tail, y = chunk ++ tail ∧ k ≤ chunk.length + 1 ∧ (13 ∉ y → chunk.length = k) ∧
        dropCR y = chunk ++ dropCR tail ∧ ∀ t, slice k (y ++ t) = .full chunk (tail ++ t))
  | 0, y, _ => by
    refine ⟨by omega, fun _ => ⟨[], y, ?split, ?fill, ?chunkLen, ?drop, ?slice⟩⟩ <;> simp [slice]
  | k+1, [], _ => by simp [slice, dropCR]
  | k+1, c :: cs, hy => by
    simp only [List.mem_cons, not_or] at hy
    obtain ⟨hc10, hcs⟩ := hy
    have hc10' : ¬ c = 10 := fun e => hc10 e.symm
    obtain ⟨ih1, ih2⟩ := slice_line k cs hcs
    by_cases hA : c = 13 ∧ k = 0
    · obtain ⟨rfl, rfl⟩ := hA
      refine ⟨by simp, fun _ => ⟨[], 13 :: cs, ?splitCR, ?fillCR, ?chunkLenCR, ?dropCR, ?sliceCR⟩⟩ <;> simp [slice]
    · by_cases hB : c = 13 ∧ cs = []
      · obtain ⟨rfl, rfl⟩ := hB
        obtain ⟨k', rfl⟩ := Nat.exists_eq_succ_of_ne_zero (by simpa using hA : k ≠ 0)
        refine ⟨fun _ => ⟨by simp [slice, Slice.cons], fun rest => by simp [slice, dropCR]⟩, fun h => by simp at h⟩
      · have hh := fun t => not_crlf c cs t hcs hB
        have hd := dropCR_cons c cs hB
        refine ⟨fun hlen => ?_, fun hlen => ?_⟩
        · obtain ⟨heof, hnl⟩ := ih1 (by simp at hlen; omega)
          refine ⟨?_, fun rest => ?_⟩
          · have := hh []
            simp only [List.append_nil] at this
            simp only [slice, hc10', hA, this, if_false, heof, Slice.cons]
          · simp only [List.cons_append, slice, hc10', hA, hh _, if_false, hnl rest, Slice.cons, hd]
        · obtain ⟨chunk, tail, hsplit, hfill, hchunk, hdrop, hslice⟩ := ih2 (by simp at hlen; omega)
          refine ⟨c :: chunk, tail, by simp [hsplit], by simp; omega, ?_, by simp [hd, hdrop], fun t => ?_⟩
          · intro h13
            simp only [List.mem_cons, not_or] at h13
            simp [hchunk h13.2]
          · simp only [List.cons_append, slice, hc10', hA, hh _, if_false, hslice t, Slice.cons]

theorem readLine_eq (n : Nat) (s : Bytes) (hs : s ≠ []) :
    readLine n s = some (match slice (bufSize n) s with
      | .nl l r => (l, false, r)
      | .full l r => (l, true, r)
      | .eof l => (l, false, [])) := by
  cases s with
  | nil => exact absurd rfl hs
  | cons c cs =>
    simp only [readLine]
    cases slice (bufSize n) (c :: cs) <;> rfl

theorem readLine_line (n : Nat) (y : Bytes) (hy : 10 ∉ y) :
    (y.length < bufSize n → (y ≠ [] → readLine n y = some (y, false, [])) ∧
        ∀ rest, readLine n (y ++ 10 :: rest) = some (dropCR y, false, rest)) ∧
    (bufSize n ≤ y.length → ∃ chunk tail, y = chunk ++ tail ∧ tail.length < y.length ∧
        (13 ∉ y → chunk.length = bufSize n) ∧ dropCR y = chunk ++ dropCR tail ∧
        ∀ t, readLine n (y ++ t) = some (chunk, true, tail ++ t)) := by
  have hb := bufSize_ge n
  obtain ⟨hshort, hlong⟩ := slice_line (bufSize n) y hy
  refine ⟨fun hlen => ⟨fun hne => ?_, fun rest => ?_⟩, fun hlen => ?_⟩
  · simp only [readLine_eq n y hne, (hshort hlen).1]
  · simp only [readLine_eq n (y ++ 10 :: rest) (by simp), (hshort hlen).2 rest]
  · obtain ⟨chunk, tail, hsplit, hfill, hchunk, hdrop, hslice⟩ := hlong hlen
    have hl : y.length = chunk.length + tail.length := by rw [hsplit]; simp
    -- the tail is shorter than `y`: the chunk holds at least `bufSize n - 1 ≥ 15` bytes (`hfill`, `hb`)
    refine ⟨chunk, tail, hsplit, by omega, hchunk, hdrop, fun t => ?_⟩
    have hne : y ++ t ≠ [] := List.append_ne_nil_of_left_ne_nil (List.ne_nil_of_length_pos (by omega)) t
    simp only [readLine_eq n (y ++ t) hne, hslice t]

theorem readLine_progress (n : Nat) (s l r : Bytes) (p : Bool) (h : readLine n s = some (l, p, r)) :
    r.length < s.length := by
  suffices ∃ l' p' r', readLine n s = some (l', p', r') ∧ r'.length < s.length by
    obtain ⟨l', p', r', e, hlt⟩ := this
    rw [e] at h
    cases h
    exact hlt
  -- `s` is its first line `y`, followed by `\n` and more or by nothing
  by_cases h10 : (10 : UInt8) ∈ s
  · obtain ⟨y, r0, rfl, hy⟩ := List.eq_append_cons_of_mem h10
    obtain ⟨hshort, hlong⟩ := readLine_line n y hy
    by_cases hlen : y.length < bufSize n
    · exact ⟨_, _, _, (hshort hlen).2 r0, by simp only [List.length_append, List.length_cons]; omega⟩
    · obtain ⟨chunk, tail, -, htail, -, -, hread⟩ := hlong (by omega)
      exact ⟨_, _, _, hread _, by simp only [List.length_append, List.length_cons]; omega⟩
  · obtain ⟨hshort, hlong⟩ := readLine_line n s h10
    have hne : s ≠ [] := by rintro rfl; simp [readLine] at h
    by_cases hlen : s.length < bufSize n
    · exact ⟨_, _, _, (hshort hlen).1 hne, List.length_pos_iff.2 hne⟩
    · obtain ⟨chunk, tail, -, htail, -, -, hread⟩ := hlong (by omega)
      exact ⟨chunk, true, tail, by simpa using hread [], htail⟩

theorem readAllFuel_ne_nil (n f : Nat) (s : Bytes) (hs : s ≠ []) (hf : 0 < f) : readAllFuel n f s ≠ [] := by
  cases f with
  | zero => omega
  | succ f =>
    simp only [readAllFuel, readLine_eq n s hs]
    cases slice (bufSize n) s <;> simp

theorem finalNL_step (x : Bytes × Bool) (rest : List (Bytes × Bool)) (s r : Bytes)
    (hs : s.getLast? = r.getLast?) (hrest : rest ≠ []) :
    finalNL (x :: rest) s = finalNL rest r := by
  unfold finalNL
  rw [List.getLast?_cons_of_ne_nil hrest, hs]

theorem render_cons (l : Bytes) (p : Bool) (rest : List (Bytes × Bool)) :
    render ((l, p) :: rest) = l ++ (if p then [] else [10]) ++ render rest := by
  simp [render]

theorem parseJSON_ne_panic (P : Params) (hP : P.Good) (E : Ext) (line : Bytes) : parseJSON P E line ≠ .panic := by
  -- every arm of `parseJSON` returns `.err`, `.ok …` or `onWrong P`
  have hw : onWrong P = .err := by simp [onWrong, hP.checkedAssertions]
  fun_cases parseJSON P E line <;> simp [hw]

/- The arms of `stderrFold` (`fun_induction`): 1 EOF, 2 a piece of a continued line; 3, 4, 5 a whole line on which
`parseJSON` panics, fails, succeeds. -/

theorem fold_written (P : Params) (E : Ext) (rs : List (Bytes × Bool)) (st : State)
    (h : (stderrFold P E st rs).panicked = false) : (stderrFold P E st rs).written = render rs := by
  fun_induction stderrFold P E st rs
  case case1 => rfl
  case case2 ih => simp [Out.prepend, render_cons, ih h]
  case case3 => cases h
  case case4 hc _ _ ih | case5 hc _ _ _ _ ih =>
    rw [Bool.not_eq_true, Bool.or_eq_false_iff] at hc
    simp [Out.prepend, render_cons, ih h, hc.1]

theorem fold_no_panic (P : Params) (hP : P.Good) (E : Ext) (rs : List (Bytes × Bool)) (st : State) :
    (stderrFold P E st rs).panicked = false := by
  fun_induction stderrFold P E st rs
  case case1 => rfl
  case case3 hj => exact absurd hj (parseJSON_ne_panic P hP E _)
  case case2 ih | case4 ih | case5 ih => exact ih

/-- `[10]` when the host appends a newline the plugin did not write: the stream does not end in
`\n` and the last `ReadLine` result is not a full-buffer prefix. -/
def finalNewline (n : Nat) (input : Bytes) : Bytes := finalNL (readAll n input) input

theorem readAllFuel_fuel (n : Nat) : ∀ (f f' : Nat) (s : Bytes), s.length < f → s.length < f' →
    readAllFuel n f s = readAllFuel n f' s
  | 0, _, _, h, _ => by omega
  | _+1, 0, _, _, h => by omega
  | f+1, f'+1, s, h, h' => by
    simp only [readAllFuel]
    cases hr : readLine n s with
    | none => rfl
    | some x =>
      obtain ⟨l, p, r⟩ := x
      have := readLine_progress n s l r p hr
      simp only
      rw [readAllFuel_fuel n f f' r (by omega) (by omega)]

theorem readAll_cons (n : Nat) (s l r : Bytes) (p : Bool) (h : readLine n s = some (l, p, r)) :
    readAll n s = (l, p) :: readAll n r := by
  have := readLine_progress n s l r p h
  unfold readAll
  rw [show readAllFuel n (s.length + 1) s = (l, p) :: readAllFuel n s.length r by simp [readAllFuel, h]]
  rw [readAllFuel_fuel n s.length (r.length + 1) r (by omega) (by omega)]

theorem readAll_nil (n : Nat) : readAll n [] = [] := by simp [readAll, readAllFuel, readLine]

theorem readAll_ne_nil (n : Nat) (s : Bytes) (hs : s ≠ []) : readAll n s ≠ [] :=
  readAllFuel_ne_nil n _ s hs (by omega)

/-- The `ReadLine` results for a line `y` and its `\n`: `chunks` are the full-buffer pieces returned as prefixes,
`last` the piece returned with the end of the line; there are no `chunks` iff the line fits the buffer. -/
theorem readAll_line (n : Nat) (y : Bytes) (hy : 10 ∉ y) :
    ∃ (chunks : List Bytes) (last : Bytes), chunks.flatten ++ last = dropCR y ∧
      (chunks = [] ↔ y.length < bufSize n) ∧
      ∀ rest, readAll n (y ++ 10 :: rest) = chunks.map (·, true) ++ (last, false) :: readAll n rest := by
  have hb := bufSize_ge n
  induction hk : y.length using Nat.strongRecOn generalizing y with
  | ind k ih =>
    subst hk
    obtain ⟨hshort, hlong⟩ := readLine_line n y hy
    by_cases hlen : y.length < bufSize n
    · exact ⟨[], dropCR y, by simp, by simp [hlen], fun rest => by simpa using readAll_cons n _ _ _ _ ((hshort hlen).2 rest)⟩
    · obtain ⟨chunk, tail, hsplit, htail, -, hdrop, hread⟩ := hlong (by omega)
      have hty : 10 ∉ tail := fun h => hy (hsplit ▸ List.mem_append_right _ h)
      obtain ⟨chunks, last, hflat, _, hrest⟩ := ih tail.length htail tail hty rfl
      refine ⟨chunk :: chunks, last, by simp [hdrop, ← hflat], by simp; omega, fun rest => ?_⟩
      rw [readAll_cons n _ _ _ _ (hread (10 :: rest)), hrest rest]
      simp

/-- The final, unterminated line `y`: it is written out as it is, followed by `\n` unless its last
chunk fills the buffer (`m` is the length of what is left after the full chunks). -/
theorem readAll_tail (n : Nat) (y : Bytes) (hy : 10 ∉ y) :
    ∃ m, (13 ∉ y → m = y.length % bufSize n) ∧
      render (readAll n y) = y ++ (if m = 0 then [] else [10]) ∧
      finalNewline n y = if m = 0 then [] else [10] := by
  have hb := bufSize_ge n
  unfold finalNewline
  induction hk : y.length using Nat.strongRecOn generalizing y with
  | ind k ih =>
    subst hk
    obtain ⟨hshort, hlong⟩ := readLine_line n y hy
    by_cases hlen : y.length < bufSize n
    · refine ⟨y.length, fun _ => (Nat.mod_eq_of_lt hlen).symm, ?_⟩
      by_cases hne : y = []
      · subst hne
        simp [readAll_nil, render, finalNL]
      · have hl : y.getLast? ≠ some 10 := fun e => hy (List.mem_of_getLast? e)
        have hpos : y.length ≠ 0 := fun e => hne (List.eq_nil_of_length_eq_zero e)
        rw [readAll_cons n _ _ _ _ ((hshort hlen).1 hne), readAll_nil]
        simp [render, finalNL, hl, hpos]
    · obtain ⟨chunk, tail, hsplit, htail, hchunk, -, hread⟩ := hlong (by omega)
      have hr := hread []
      simp only [List.append_nil] at hr
      have hty : 10 ∉ tail := fun h => hy (hsplit ▸ List.mem_append_right _ h)
      obtain ⟨m, hm, ihRender, ihFinal⟩ := ih tail.length htail tail hty rfl
      refine ⟨m, fun h13 => ?_, ?_, ?_⟩
      · have h13' : 13 ∉ tail := fun h => h13 (hsplit ▸ List.mem_append_right _ h)
        have hl : y.length = bufSize n + tail.length := by rw [hsplit]; simp [hchunk h13]
        rw [hm h13', hl, Nat.add_mod_left]
      · rw [readAll_cons n _ _ _ _ hr, render_cons, ihRender, hsplit]
        simp
      · rw [readAll_cons n _ _ _ _ hr]
        by_cases htl : tail = []
        · subst htl
          simp [readAll_nil, finalNL] at ihFinal ⊢
          exact ihFinal
        · rw [finalNL_step _ _ y tail (by rw [hsplit, getLast?_append_ne _ _ htl]) (readAll_ne_nil n _ htl), ihFinal]

theorem crlfToLf_of_not_mem (y : Bytes) (hy : 10 ∉ y) : crlfToLf y = y := by
  induction y with
  | nil => rfl
  | cons c cs ih =>
    simp only [List.mem_cons, not_or] at hy
    have : ¬ (c = 13 ∧ cs.head? = some 10) := fun h => hy.2 (List.mem_of_mem_head? h.2)
    simp only [crlfToLf, this, if_false, ih hy.2]

theorem crlfToLf_line (y r : Bytes) (hy : 10 ∉ y) : crlfToLf (y ++ 10 :: r) = dropCR y ++ 10 :: crlfToLf r := by
  induction y with
  | nil => simp [crlfToLf, dropCR]
  | cons c cs ih =>
    simp only [List.mem_cons, not_or] at hy
    by_cases hB : c = 13 ∧ cs = []
    · obtain ⟨rfl, rfl⟩ := hB
      simp [crlfToLf, dropCR]
    · have hh := not_crlf c cs (10 :: r) hy.2 hB
      have hd := dropCR_cons c cs hB
      simp only [List.cons_append, crlfToLf, hh, if_false, ih hy.2, hd]

theorem finalNewline_line (n : Nat) (y r : Bytes) (hy : 10 ∉ y) :
    finalNewline n (y ++ 10 :: r) = finalNewline n r := by
  obtain ⟨chunks, last, -, -, hread⟩ := readAll_line n y hy
  unfold finalNewline finalNL
  rw [hread r]
  by_cases hr : r = []
  · subst hr
    simp [readAll_nil]
  · rw [getLast?_append_ne _ _ (by simp), List.getLast?_cons_of_ne_nil (readAll_ne_nil n r hr),
      getLast?_append_ne _ _ (by simp), List.getLast?_cons_of_ne_nil hr]

theorem render_append (a b : List (Bytes × Bool)) : render (a ++ b) = render a ++ render b := by
  simp [render]

theorem render_chunks (chunks : List Bytes) : render (chunks.map (·, true)) = chunks.flatten := by
  induction chunks with
  | nil => rfl
  | cons c cs ih => simp [render_cons, ih]

theorem render_readAll (n : Nat) (s : Bytes) : render (readAll n s) = crlfToLf s ++ finalNewline n s := by
  induction hk : s.length using Nat.strongRecOn generalizing s with
  | ind k ih =>
    subst hk
    by_cases h10 : (10 : UInt8) ∈ s
    · -- the first line, then the rest of the stream
      obtain ⟨y, r, rfl, hy⟩ := List.eq_append_cons_of_mem h10
      obtain ⟨chunks, last, hflat, -, hread⟩ := readAll_line n y hy
      rw [crlfToLf_line y r hy, finalNewline_line n y r hy, ← hflat, hread r, render_append, render_chunks, render_cons,
        ih r.length (by simp only [List.length_append, List.length_cons]; omega) r rfl]
      simp
    · obtain ⟨m, -, hr, hf⟩ := readAll_tail n s h10
      rw [hr, hf, crlfToLf_of_not_mem s h10]

theorem fold_chunks (P : Params) (E : Ext) : ∀ (chunks : List Bytes) (st : State) (last : Bytes)
    (more : List (Bytes × Bool)), (chunks ≠ [] ∨ st.cont = true) →
    stderrFold P E st (chunks.map (·, true) ++ (last, false) :: more) =
      (stderrFold P E ⟨false, st.inPanic⟩ more).prepend (chunks.flatten ++ last ++ [10])
        ((chunks ++ [last]).map (rawRec .debug))
  | [], st, last, more, h => by
    have hc : st.cont = true := by simpa using h
    simp [stderrFold, hc]
  | c :: cs, st, last, more, _ => by
    have ih := fold_chunks P E cs ⟨true, st.inPanic⟩ last more (Or.inr rfl)
    simp only [List.map_cons, List.cons_append]
    rw [stderrFold]
    simp [ih, Out.prepend]

def prefixTable : List (Bytes × Level) :=
  [(pTrace, .trace), (pDebug, .debug), (pInfo, .info), (pWarn, .warn), (pError, .error)]

/-- Level of a line that is not hclog JSON, and whether a panic trace is open after it. -/
def specText (inPanic : Bool) (line : Bytes) : Level × Bool :=
  match prefixTable.find? (fun e => e.1.isPrefixOf line) with
  | some e => (e.2, false)
  | none => if pPanic.isPrefixOf line then (.error, true) else (if inPanic then .error else .debug, inPanic)

def expected (P : Params) (E : Ext) (inPanic : Bool) (line : Bytes) : Record × Bool :=
  match parseJSON P E line with
  | .ok msg lvl keys =>
    (match hclogLevel lvl with
      | some L => ⟨L, msg, true, keys ++ [aTimestamp]⟩
      | none => ⟨.debug, line, false, []⟩, false)
  | _ => (⟨(specText inPanic line).1, line, false, []⟩, (specText inPanic line).2)

/-- Complete lines can be read on their own: `ReadLine` never looks past a `\n`. -/
theorem readAll_append (n : Nat) (pre s : Bytes) (hpre : pre = [] ∨ pre.getLast? = some 10) :
    readAll n (pre ++ s) = readAll n pre ++ readAll n s := by
  induction hk : pre.length using Nat.strongRecOn generalizing pre with
  | ind k ih =>
    subst hk
    rcases hpre with rfl | hl
    · simp [readAll_nil]
    · obtain ⟨y, pre', rfl, hy⟩ := List.eq_append_cons_of_mem (List.mem_of_getLast? hl)
      have hpre' : pre' = [] ∨ pre'.getLast? = some 10 := by
        by_cases hp : pre' = []
        · exact Or.inl hp
        · rw [getLast?_append_ne _ _ (by simp), List.getLast?_cons_of_ne_nil hp] at hl
          exact Or.inr hl
      obtain ⟨chunks, last, _, _, hread⟩ := readAll_line n y hy
      rw [List.append_assoc, List.cons_append, hread (pre' ++ s), hread pre',
        ih pre'.length (by simp; omega) pre' hpre' rfl]
      simp

/-! ### stdout: lemmas about `Scanner` (`Model/Scanner.lean`), whose only user is C10 -/
open Scanner in
theorem scanTok_token_len (k : Nat) (s r : Bytes) (h : scanTok k s = .token r) : r.length < s.length := by
  -- arms of `scanTok`: 1 no room left, 2 end of stream, 3 the `\n` is found (`r` is what follows it), 4 a byte is passed
  fun_induction scanTok k s with
  | case1 | case2 => cases h
  | case3 => cases h; exact Nat.lt_succ_self _
  | case4 _ _ _ _ ih => exact Nat.lt_succ_of_lt (ih h)

open Scanner in
theorem unreadFuel_good (P : DrainParams) (hP : P.Good) : ∀ (f : Nat) (s : Bytes), s.length < f →
    unreadFuel P f s = []
  | 0, s, h => by omega
  | f+1, s, h => by
    simp only [unreadFuel]
    cases ht : scanTok P.maxToken s with
    | eof => rfl
    | tooLong u => simp [hP.drainsAfterScannerError]
    | token rest =>
      have := scanTok_token_len _ _ _ ht
      simp only [hP.drainsLines, if_true]
      exact unreadFuel_good P hP f rest (by omega)

open Scanner in
theorem scanTok_replicate (c : UInt8) (hc : c ≠ 10) (rest : Bytes) : ∀ M : Nat,
    scanTok M (List.replicate M c ++ rest) = .tooLong rest
  | 0 => by simp [scanTok]
  | M+1 => by simp [List.replicate_succ, scanTok, hc, scanTok_replicate c hc rest M]

end GoPlugin.LogLine
