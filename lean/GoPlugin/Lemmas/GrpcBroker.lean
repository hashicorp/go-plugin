import GoPlugin.Model.GrpcBroker
import GoPlugin.Lemmas.Run
/-
Invariants of the GrpcBroker model (consistency; in the last section, the timers) and their preservation.  Every event is a short sequence of field updates of the
state, and a state that differs in one field satisfies every clause that does not read it by the proof it had
(`{ h with clause := … }`: the two states agree on what the other clauses read).  The setter lemmas say which
obligations arise when one table changes; a slot that is written is new or keeps its id.
-/
namespace GoPlugin.GrpcBroker

theorem isRun (P : Params) : IsRun (step P) (runFrom P) :=
  ⟨fun _ => rfl, fun s e es => by simp only [runFrom]; cases step P s e <;> rfl⟩

theorem runFrom_append (P : Params) (s : State) (es fs : List Event) :
    runFrom P s (es ++ fs) = (runFrom P s es).bind (fun s' => runFrom P s' fs) :=
  (isRun P).append s es fs

theorem reachable_induction {P : Params} {Inv : State → Prop} (h0 : Inv init)
    (hstep : ∀ s e s', Inv s → step P s e = some s' → Inv s') : ∀ s, Reachable P s → Inv s :=
  fun _ ⟨_, hes⟩ => (isRun P).invariant hstep h0 hes

theorem Params.Good.filesUnderServiceId {P : Params} (h : P.Good) : P.filesUnderServiceId = true := h.1
theorem Params.Good.dialsReceivedAddr {P : Params} (h : P.Good) : P.dialsReceivedAddr = true := h.2.1
theorem Params.Good.runParkNonBlocking {P : Params} (h : P.Good) : P.runParkNonBlocking = true := h.2.2.1
theorem DialParams.Good.optsFresh {D : DialParams} (h : D.Good) : D.optsFresh = true := h.1
theorem DialParams.Good.waitsUnlocked {D : DialParams} (h : D.Good) : D.waitsUnlocked = true := h.2.1
theorem DialParams.Good.acceptLeavesDialState {D : DialParams} (h : D.Good) : D.acceptLeavesDialState = true := h.2.2.1
theorem DialParams.Good.dialFailsFast {D : DialParams} (h : D.Good) : D.dialFailsFast = true := h.2.2.2

theorem getStream_frame (s : State) (id : Nat) :
    ∃ m sm sl n, (getStream s id).1 = { s with map := m, smap := sm, slots := sl, nSlots := n } := by
  unfold getStream; split
  · exact ⟨s.map, s.smap, s.slots, s.nSlots, rfl⟩
  · exact ⟨_, s.smap, _, _, rfl⟩

theorem getServerStream_frame (s : State) (id : Nat) :
    ∃ m sm sl n, (getServerStream s id).1 = { s with map := m, smap := sm, slots := sl, nSlots := n } := by
  unfold getServerStream; split
  · exact ⟨s.map, s.smap, s.slots, s.nSlots, rfl⟩
  · exact ⟨s.map, _, _, _, rfl⟩

/-- `hr` has the shape of the `let` in `step`'s `runRecv` branch, which `fun_cases` hands over as it stands; likewise in
`filed_consistent`. -/
theorem filed_frame {P : Params} {s : State} {w : List Msg} {id : Nat} {r : State × Nat}
    (hr : r = if P.filesUnderServiceId then getStream { s with wire := w } id else getServerStream { s with wire := w } id) :
    ∃ m sm sl n, r.1 = { s with wire := w, map := m, smap := sm, slots := sl, nSlots := n } := by
  subst hr; split
  · exact getStream_frame ..
  · exact getServerStream_frame ..

def SlotHasId (s : State) (k i : Nat) : Prop := ∃ sl, s.slots k = some sl ∧ sl.id = i
/-- the message carries the address of a listener created by an `Accept` for the message's service id -/
def MsgOk (s : State) (m : Msg) : Prop := s.listeners m.addr = some ⟨m.sid⟩

structure Consistent (P : Params) (s : State) : Prop where
  fresh_slots : ∀ i, s.nSlots ≤ i → s.slots i = none
  fresh_listeners : ∀ i, s.nListeners ≤ i → s.listeners i = none
  wire_ok : ∀ m, m ∈ s.wire → MsgOk s m
  map_id : ∀ i k, s.map i = some k → SlotHasId s k i
  smap_id : ∀ i k, s.smap i = some k → SlotHasId s k i
  dial_id : ∀ g (d : Dial), s.dials g = some d → SlotHasId s d.slot d.id
  run_ok : ∀ k m, (s.run = .have k m ∨ s.run = .blocked k m) → MsgOk s m ∧ SlotHasId s k m.sid
  buf_ok : ∀ k (sl : Slot), s.slots k = some sl → ∀ m, sl.buf = some m → MsgOk s m ∧ m.sid = sl.id
  dialled_ok : P.dialsReceivedAddr = true →
    ∀ g (d : Dial), s.dials g = some d → ∀ a, d.pc = .dialled a → s.listeners a = some ⟨d.id⟩

theorem consistent_init (P : Params) : Consistent P init := by
  constructor <;> simp [init, SlotHasId, MsgOk]

theorem SlotHasId.id_eq {s : State} {k i : Nat} {sl : Slot} (h : SlotHasId s k i) (hk : s.slots k = some sl) : sl.id = i := by
  obtain ⟨sl', h1, h2⟩ := h; rw [hk] at h1; cases h1; exact h2

variable {P : Params} {s : State}

/-- one slot is written: a new one, or an old one keeping its id, so every slot any clause refers to keeps its id -/
theorem Consistent.put_slot (h : Consistent P s) {k n : Nat} {sl' : Slot} (hk : k < n) (hn : s.nSlots ≤ n)
    (hid : ∀ sl, s.slots k = some sl → sl'.id = sl.id)
    (hnew : ∀ m, sl'.buf = some m → MsgOk s m ∧ m.sid = sl'.id) :
    Consistent P { s with slots := upd s.slots k (some sl'), nSlots := n } :=
  have mono : ∀ {j i}, SlotHasId s j i → SlotHasId { s with slots := upd s.slots k (some sl'), nSlots := n } j i := by
    intro j i ⟨sl, hj, e⟩
    by_cases ej : j = k
    · subst ej; exact ⟨sl', upd_same .., (hid sl hj).trans e⟩
    · exact ⟨sl, (upd_ne _ _ ej).trans hj, e⟩
  { h with
    fresh_slots := upd_fresh_above h.fresh_slots hk hn
    map_id := fun i j hj => mono (h.map_id i j hj)
    smap_id := fun i j hj => mono (h.smap_id i j hj)
    dial_id := fun g d hd => mono (h.dial_id g d hd)
    run_ok := fun j m hr => ⟨(h.run_ok j m hr).1, mono (h.run_ok j m hr).2⟩
    buf_ok := forall_upd_some h.buf_ok hnew }

theorem Consistent.alloc (h : Consistent P s) (id : Nat) :
    Consistent P { s with slots := upd s.slots s.nSlots (some ⟨id, none, false⟩), nSlots := s.nSlots + 1 } :=
  h.put_slot (Nat.lt_succ_self _) (Nat.le_succ _) (fun _ hsl => by rw [h.fresh_slots _ (Nat.le_refl _)] at hsl; cases hsl) nofun

theorem slotHasId_alloc (s : State) (id : Nat) :
    SlotHasId { s with slots := upd s.slots s.nSlots (some ⟨id, none, false⟩), nSlots := s.nSlots + 1 } s.nSlots id :=
  ⟨_, upd_same .., rfl⟩

theorem Consistent.modify_slot (h : Consistent P s) {k : Nat} {sl sl' : Slot} (hk : s.slots k = some sl) (hid : sl'.id = sl.id)
    (hnew : ∀ m, sl'.buf = some m → MsgOk s m ∧ m.sid = sl'.id) :
    Consistent P { s with slots := upd s.slots k (some sl') } :=
  h.put_slot (index_lt_of_some h.fresh_slots hk) (Nat.le_refl _) (fun _ hx => by rw [hk] at hx; cases hx; exact hid) hnew

theorem Consistent.point_map (h : Consistent P s) {id k : Nat} (hk : SlotHasId s k id) :
    Consistent P { s with map := upd s.map id (some k) } :=
  { h with map_id := forall_upd_some h.map_id hk }

theorem Consistent.point_smap (h : Consistent P s) {id k : Nat} (hk : SlotHasId s k id) :
    Consistent P { s with smap := upd s.smap id (some k) } :=
  { h with smap_id := forall_upd_some h.smap_id hk }

theorem Consistent.put_dial (h : Consistent P s) {g n : Nat} {d' : Dial}
    (hid : SlotHasId s d'.slot d'.id)
    (hdl : P.dialsReceivedAddr = true → ∀ a, d'.pc = .dialled a → s.listeners a = some ⟨d'.id⟩) :
    Consistent P { s with dials := upd s.dials g (some d'), nDials := n } :=
  { h with
    dial_id := forall_upd_some h.dial_id hid
    dialled_ok := fun hp => forall_upd_some (h.dialled_ok hp) (hdl hp) }

theorem Consistent.push_dial (h : Consistent P s) {id k dl : Nat} (hk : SlotHasId s k id) :
    Consistent P { s with dials := upd s.dials s.nDials (some ⟨id, k, dl, .wait⟩), nDials := s.nDials + 1 } :=
  h.put_dial hk nofun

theorem Consistent.move_dial (h : Consistent P s) {g : Nat} {d : Dial} (hd : s.dials g = some d) (pc : DialPc)
    (hdl : P.dialsReceivedAddr = true → ∀ a, pc = .dialled a → s.listeners a = some ⟨d.id⟩) :
    Consistent P { s with dials := upd s.dials g (some { d with pc := pc }) } :=
  h.put_dial (h.dial_id g d hd) hdl

theorem Consistent.run_idle (h : Consistent P s) : Consistent P { s with run := .idle } :=
  { h with run_ok := fun _ _ hr => by rcases hr with hr | hr <;> cases hr }

theorem Consistent.fill (h : Consistent P s) {k : Nat} {m : Msg} {sl : Slot}
    (hr : s.run = .have k m ∨ s.run = .blocked k m) (hk : s.slots k = some sl) :
    Consistent P { s with run := .idle, slots := upd s.slots k (some { sl with buf := some m }) } :=
  have ⟨hm, hsl⟩ := h.run_ok k m hr
  (h.modify_slot (sl' := { sl with buf := some m }) hk rfl
    (fun m' hb => by cases hb; exact ⟨hm, (hsl.id_eq hk).symm⟩)).run_idle

theorem getStream_consistent (h : Consistent P s) (id : Nat) :
    Consistent P (getStream s id).1 ∧ SlotHasId (getStream s id).1 (getStream s id).2 id := by
  unfold getStream
  cases hm : s.map id with
  | some k => exact ⟨h, h.map_id id k hm⟩
  | none => exact ⟨(h.alloc id).point_map (slotHasId_alloc s id), slotHasId_alloc s id⟩

theorem getServerStream_consistent (h : Consistent P s) (id : Nat) :
    Consistent P (getServerStream s id).1 ∧ SlotHasId (getServerStream s id).1 (getServerStream s id).2 id := by
  unfold getServerStream
  cases hm : s.smap id with
  | some k => exact ⟨h, h.smap_id id k hm⟩
  | none => exact ⟨(h.alloc id).point_smap (slotHasId_alloc s id), slotHasId_alloc s id⟩

theorem filed_consistent {w : List Msg} {id : Nat} {r : State × Nat} (h : Consistent P { s with wire := w })
    (hr : r = if P.filesUnderServiceId then getStream { s with wire := w } id else getServerStream { s with wire := w } id) :
    Consistent P r.1 ∧ SlotHasId r.1 r.2 id := by
  subst hr; split
  · exact getStream_consistent h _
  · exact getServerStream_consistent h _

/- The branches of `step` (`fun_cases`) that return a state: 1 `accept`, 2 `runRecv`, 4 `runPark` into an empty slot,
5 `runPark` on a full slot, the message dropped, 6 the same with a blocking send, 9 `runUnblock`, 14 `dialRacy`, 15 `dial`,
16 `dialTake` from a slot that was taken before (panic), 17 `dialTake`, 21 `dialTimeout`, 24 `twWake`, 28 `twFinish`,
31 `tick`. -/

theorem consistent_step (P : Params) (s s' : State) (e : Event) (h : Consistent P s) (hs : step P s e = some s') :
    Consistent P s' := by
  revert hs
  fun_cases step P s e <;> intro hs <;> cases hs
  case case1 id =>
    -- listeners only grow, so every `MsgOk` and `dialled_ok` is kept
    have mono : ∀ {a l}, s.listeners a = some l → upd s.listeners s.nListeners (some ⟨id⟩) a = some l :=
      upd_fresh_old (h.fresh_listeners _ (Nat.le_refl _))
    exact { h with
      fresh_listeners := upd_fresh_above h.fresh_listeners (Nat.lt_succ_self _) (Nat.le_succ _)
      wire_ok := fun m hm => by
        rcases List.mem_append.1 hm with hm | hm
        · exact mono (h.wire_ok m hm)
        · cases List.mem_singleton.1 hm; exact upd_same ..
      run_ok := fun k m hr => ⟨mono (h.run_ok k m hr).1, (h.run_ok k m hr).2⟩
      buf_ok := fun k sl hk m hb => ⟨mono (h.buf_ok k sl hk m hb).1, (h.buf_ok k sl hk m hb).2⟩
      dialled_ok := fun hp g d hd a hpc => mono (h.dialled_ok hp g d hd a hpc) }
  case case2 m w hw _ r =>
    have hm : MsgOk s m := h.wire_ok m (by simp [hw])
    have h0 : Consistent P { s with wire := w } := { h with wire_ok := fun m' hm' => h.wire_ok m' (by simp [hw, hm']) }
    obtain ⟨_, _, _, _, e⟩ := filed_frame (r := r) rfl
    have ⟨c, hsl⟩ := filed_consistent h0 (r := r) rfl
    exact { c with
      run_ok := fun k' m' hr => by
        rcases hr with hr | hr <;> cases hr
        exact ⟨by rw [e]; exact hm, hsl⟩ }
  case case4 k m hr sl hk _ => exact h.fill (.inl hr) hk
  case case5 => exact h.run_idle
  case case6 =>
    exact { h with
      run_ok := fun _ _ e => by
        rcases e with e | e <;> cases e
        exact h.run_ok _ _ (.inl ‹s.run = .have _ _›) }
  case case9 k m hr sl hk _ => exact h.fill (.inr hr) hk
  case case14 id _ => exact ((h.alloc id).point_map (slotHasId_alloc s id)).push_dial (slotHasId_alloc s id)
  case case15 id r =>
    obtain ⟨_, _, _, _, e⟩ := getStream_frame s id
    have ⟨c, hsl⟩ := getStream_consistent h id
    have := c.push_dial (dl := s.now + P.dialWindow) hsl
    rwa [show (getStream s id).1.nDials = s.nDials by rw [e]] at this
  case case16 g d hd sl hk _ m _ _ =>
    exact (h.modify_slot (sl' := { sl with buf := none }) hk rfl nofun).move_dial hd .panicked nofun
  case case17 g d hd sl hk _ m hb _ target =>
    refine (h.modify_slot (sl' := { sl with buf := none, done := true }) hk rfl nofun).move_dial hd _ fun hp a' e => ?_
    -- the address dialled is the message's, the message is for the slot's id, the slot is the dial's
    obtain ⟨hm, hmid⟩ := h.buf_ok d.slot sl hk m hb
    cases e
    show s.listeners (if P.dialsReceivedAddr = true then m.addr else 0) = _
    rw [if_pos hp, ← (h.dial_id g d hd).id_eq hk, ← hmid]
    exact hm
  case case21 g d hd _ => exact h.move_dial hd .timedOut nofun
  case case24 | case31 => exact { h with }
  case case28 => exact { h with map_id := forall_upd h.map_id nofun }

theorem consistent_of_reachable (P : Params) (s : State) (h : Reachable P s) : Consistent P s :=
  reachable_induction (Inv := Consistent P) (consistent_init P) (fun s e s' hi hs => consistent_step P s s' e hi hs) s h

/-! ### Timers

(same argument as for `MuxBroker`) Deadlines are set once,
`now + window`, and the clock only advances.  Holds for every `Params`. -/

structure Timed (P : Params) (s : State) : Prop where
  dial : Due Dial.deadline s.dials (s.now + P.dialWindow)
  tw : Due Tw.deadline s.tws (s.now + P.expiryWindow)

theorem timed_init (P : Params) : Timed P init := ⟨nofun, nofun⟩

/-- a new entry is due exactly a window from now; an entry that changes keeps its deadline; `tick` moves the bound on
(branch numbers of `step`: legend above `consistent_step`) -/
theorem timed_step (P : Params) (s s' : State) (e : Event) (h : Timed P s) (hs : step P s e = some s') : Timed P s' := by
  obtain ⟨hd, ht⟩ := h
  revert hs
  fun_cases step P s e <;> intro hs <;> cases hs
  case case2 r =>
    obtain ⟨_, _, _, _, e⟩ := filed_frame (r := r) rfl
    rw [e]
    exact ⟨hd, ht.upd _ (Nat.le_refl _)⟩
  case case14 => exact ⟨hd.upd _ (Nat.le_refl _), ht⟩
  case case15 id r =>
    obtain ⟨_, _, _, _, e⟩ := getStream_frame s id
    rw [e]
    exact ⟨hd.upd _ (Nat.le_refl _), ht⟩
  case case16 | case17 | case21 => exact ⟨hd.upd _ (hd _ _ ‹s.dials _ = some _› :), ht⟩
  case case24 | case28 => exact ⟨hd, ht.upd _ (ht _ _ ‹s.tws _ = some _› :)⟩
  case case31 =>
    exact ⟨hd.mono (Nat.add_le_add_right (Nat.le_add_right ..) _), ht.mono (Nat.add_le_add_right (Nat.le_add_right ..) _)⟩
  case case1 | case4 | case5 | case6 | case9 => exact ⟨hd, ht⟩

theorem timed_of_reachable (P : Params) (s : State) (h : Reachable P s) : Timed P s :=
  reachable_induction (timed_init P) (fun s e s' => timed_step P s s' e) s h

end GoPlugin.GrpcBroker
