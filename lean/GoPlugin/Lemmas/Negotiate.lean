import GoPlugin.Model.Negotiate
import GoPlugin.Lemmas.Bytes
/-
Helper lemmas for the C02 theorems: the insertion sort is a sort, association
lists with unique keys behave like maps, and what the two loops of
`protocolVersion` / `checkProtoVersion` compute.  Core Lean only.
-/
namespace GoPlugin.Negotiate
open GoPlugin.Go List

namespace Params.Good
variable {P : Params} (h : P.Good)
include h
theorem versionsDesc : P.versionsDesc = true := h.1
theorem fallbackLast : P.fallbackLast = true := h.2.1
theorem clientEq : P.clientEq = true := h.2.2
end Params.Good

/-- `a` may stand before `b` in a list sorted in direction `d`. -/
def ord (d : Bool) (a b : Int) : Prop := if d then b ≤ a else a ≤ b

/- The arms of `insertBy d x` (`fun_induction`): 1 the empty list, 2 `x` may stand before the head `y` (`hc : ord d x y`),
3 it may not and goes into the tail. -/

theorem insertBy_perm (d : Bool) (x : Int) (l : List Int) : (insertBy d x l).Perm (x :: l) := by
  fun_induction insertBy d x l with
  | case1 => exact .refl _
  | case2 => exact .refl _
  | case3 y ys _ ih => exact (ih.cons y).trans (.swap x y ys)

theorem sortBy_perm (d : Bool) : ∀ l, (sortBy d l).Perm l
  | [] => Perm.refl _
  | x :: xs => (insertBy_perm d x _).trans ((sortBy_perm d xs).cons x)

theorem mem_sortBy (d : Bool) (l : List Int) (x : Int) : x ∈ sortBy d l ↔ x ∈ l :=
  (sortBy_perm d l).mem_iff

theorem ord_trans {d : Bool} {a b c : Int} : ord d a b → ord d b c → ord d a c := by
  cases d <;> simp [ord] <;> omega

theorem ord_of_not {d : Bool} {a b : Int} : ¬ ord d a b → ord d b a := by
  cases d <;> simp [ord] <;> omega

theorem insertBy_sorted (d : Bool) (x : Int) (l : List Int) (h : l.Pairwise (ord d)) :
    (insertBy d x l).Pairwise (ord d) := by
  fun_induction insertBy d x l with
  | case1 => simp
  | case2 y ys hc =>
    refine pairwise_cons.2 ⟨fun z hz => ?_, h⟩
    rcases mem_cons.1 hz with rfl | hz
    · exact hc
    · exact ord_trans hc ((pairwise_cons.1 h).1 z hz)
  | case3 y ys hc ih =>
    obtain ⟨hy, hys⟩ := pairwise_cons.1 h
    refine pairwise_cons.2 ⟨fun z hz => ?_, ih hys⟩
    rcases mem_cons.1 ((insertBy_perm d x ys).mem_iff.1 hz) with rfl | hz
    · exact ord_of_not hc
    · exact hy z hz

theorem sortBy_sorted (d : Bool) : ∀ l, (sortBy d l).Pairwise (ord d)
  | [] => by simp [sortBy]
  | x :: xs => insertBy_sorted d x _ (sortBy_sorted d xs)

theorem sortBy_eq_of_perm (d : Bool) {l l' : List Int} (h : l.Perm l') : sortBy d l = sortBy d l' := by
  refine Perm.eq_of_pairwise (le := ord d) ?_ (sortBy_sorted d l) (sortBy_sorted d l')
    (((sortBy_perm d l).trans h).trans (sortBy_perm d l').symm)
  intro a b _ _ h1 h2
  cases d <;> simp_all [ord] <;> omega

theorem clientHas_iff (cs : List Int) (v : Int) : clientHas cs v = true ↔ v ∈ cs := by
  induction cs with
  | nil => simp [clientHas]
  | cons c cs ih =>
    by_cases h : c = v
    · simp [clientHas, h]
    · simp [clientHas, h, Ne.symm h, ih]

theorem hasKey_iff (m : VMap) (v : Int) : hasKey m v = true ↔ v ∈ keys m := by
  simp only [hasKey, keys, any_eq_true, beq_iff_eq, mem_map]

theorem lookup_none_iff (m : VMap) (v : Int) : lookup m v = none ↔ v ∉ keys m := by
  induction m with
  | nil => simp [lookup, keys]
  | cons e rest ih =>
    by_cases hk : e.1 = v
    · simp [lookup, keys, hk]
    · simp [lookup, hk, Ne.symm hk, ih, keys]

theorem mem_keys_iff_lookup (m : VMap) (v : Int) : v ∈ keys m ↔ ∃ s, lookup m v = some s := by
  have := lookup_none_iff m v
  cases h : lookup m v <;> simp_all

theorem lookup_eq_some_iff {m : VMap} (hn : (keys m).Nodup) (v : Int) (s : SetId) :
    lookup m v = some s ↔ (v, s) ∈ m := by
  induction m with
  | nil => simp [lookup]
  | cons e rest ih =>
    obtain ⟨k, t⟩ := e
    obtain ⟨hk, hn⟩ := nodup_cons.1 hn
    simp only [lookup, mem_cons, ← ih hn, Prod.mk.injEq]
    by_cases h : k = v
    · -- `v` heads the list and, keys being distinct, is no key of the rest
      simp [h, (lookup_none_iff rest v).2 (h ▸ hk), eq_comm]
    · simp [h, Ne.symm h]

theorem keys_perm {m m' : VMap} (h : m.Perm m') : (keys m).Perm (keys m') := h.map _

theorem lookup_perm {m m' : VMap} (hn : (keys m).Nodup) (h : m.Perm m') (v : Int) : lookup m v = lookup m' v :=
  Option.ext fun s => by
    rw [lookup_eq_some_iff hn, lookup_eq_some_iff ((keys_perm h).nodup hn), h.mem_iff]

theorem keys_replace (m : VMap) (v : Int) (s : SetId) :
    keys (m.map (fun e => if e.1 = v then (v, s) else e)) = keys m := by
  simp only [keys, map_map]
  refine map_congr_left fun e _ => ?_
  by_cases h : e.1 = v <;> simp [h]

theorem lookup_replace (m : VMap) (v : Int) (s : SetId) (w : Int) :
    lookup (m.map (fun e => if e.1 = v then (v, s) else e)) w =
      if w = v then (lookup m v).map (fun _ => s) else lookup m w := by
  induction m with
  | nil => simp [lookup]
  | cons e rest ih =>
    simp only [map_cons, lookup]
    by_cases hk : e.1 = v <;> by_cases hw : w = v <;> simp_all [@eq_comm _ w]

theorem lookup_append_fresh (m : VMap) (v : Int) (s : SetId) (w : Int) (hv : v ∉ keys m) :
    lookup (m ++ [(v, s)]) w = if w = v then some s else lookup m w := by
  induction m with
  | nil => simp [lookup, @eq_comm _ v w]
  | cons e rest ih =>
    simp only [keys, map_cons, mem_cons, not_or] at hv
    simp only [cons_append, lookup, ih hv.2]
    split
    · next hk => rw [if_neg (hk ▸ Ne.symm hv.1)]
    · rfl

/-- Both folds touch the key list in the same way: a fresh key is appended, nothing else changes. -/
theorem keys_foldLegacyServer_eq_client (m : VMap) (v : Int) (p : Option SetId) :
    keys (foldLegacyServer m v p) = keys (foldLegacyClient m v p) := by
  cases p with
  | none => rfl
  | some s =>
    simp only [foldLegacyServer, foldLegacyClient]
    split
    · exact keys_replace m v s
    · rfl

theorem hasKey_perm {m m' : VMap} (h : m.Perm m') (v : Int) : hasKey m v = hasKey m' v := by
  rw [Bool.eq_iff_iff, hasKey_iff, hasKey_iff]
  exact (keys_perm h).mem_iff

theorem foldLegacyServer_perm {m m' : VMap} (h : m.Perm m') (v : Int) (p : Option SetId) :
    (foldLegacyServer m v p).Perm (foldLegacyServer m' v p) := by
  cases p with
  | none => exact h
  | some s =>
    simp only [foldLegacyServer, hasKey_perm h v]
    split
    · exact h.map _
    · exact h.append_right _

theorem foldLegacyClient_perm {m m' : VMap} (h : m.Perm m') (v : Int) (p : Option SetId) :
    (foldLegacyClient m v p).Perm (foldLegacyClient m' v p) := by
  cases p with
  | none => exact h
  | some s =>
    simp only [foldLegacyClient, hasKey_perm h v]
    split
    · exact h
    · exact h.append_right _

theorem foldLegacyClient_nodup {m : VMap} (hn : (keys m).Nodup) (v : Int) (p : Option SetId) :
    (keys (foldLegacyClient m v p)).Nodup := by
  cases p with
  | none => exact hn
  | some s =>
    simp only [foldLegacyClient]
    split
    · exact hn
    · next h =>
      have hv : v ∉ keys m := fun hv => h ((hasKey_iff m v).2 hv)
      rw [keys, map_append]
      exact (perm_append_singleton v _).nodup_iff.2 (nodup_cons.2 ⟨hv, hn⟩)

theorem foldLegacyServer_nodup {m : VMap} (hn : (keys m).Nodup) (v : Int) (p : Option SetId) :
    (keys (foldLegacyServer m v p)).Nodup := by
  rw [keys_foldLegacyServer_eq_client]; exact foldLegacyClient_nodup hn v p

theorem ServeCfg.folded_perm {cfg cfg' : ServeCfg} (hlv : cfg.legacyVersion = cfg'.legacyVersion)
    (hlp : cfg.legacyPlugins = cfg'.legacyPlugins) (hperm : cfg.versioned.Perm cfg'.versioned) :
    cfg.folded.Perm cfg'.folded := by
  unfold ServeCfg.folded
  rw [← hlv, ← hlp]
  exact foldLegacyServer_perm hperm _ _

theorem ServeCfg.folded_nodup {cfg : ServeCfg} (hn : (keys cfg.versioned).Nodup) : (keys cfg.folded).Nodup :=
  foldLegacyServer_nodup hn _ _

theorem parse_join (fs : List Bytes) (h : ∀ f ∈ fs, comma ∉ f) :
    parseVersions (join comma fs) = fs.filterMap atoi := by
  cases fs with
  | nil => simp [parseVersions, join]
  | cons f rest =>
    have hs := split_join comma (f :: rest) (by simp) h
    unfold parseVersions
    split
    · next hj =>
      -- an empty rendering: the one field is empty, and `Atoi("")` fails
      rw [hj] at hs
      rw [← hs]
      simp [split, atoi]
    · rw [hs]

theorem parse_render (ks : List Int) : parseVersions (renderVersions ks) = (ks.map itoa).filterMap atoi :=
  parse_join _ fun f hf => by
    obtain ⟨i, _, rfl⟩ := mem_map.1 hf
    exact not_mem_itoa i comma (by decide) (by decide)

theorem checkLoop_eq (P : Params) (hP : P.clientEq = true) (sv : Int) (m : VMap) :
    checkLoop P sv m = match lookup m sv with
      | some s => .ok (sv, s)
      | none => .error .versionIncompatible := by
  induction m with
  | nil => simp [checkLoop, lookup]
  | cons e rest ih =>
    by_cases hk : e.1 = sv
    · simp [checkLoop, hP, lookup, hk]
    · simp [checkLoop, hP, lookup, hk, Ne.symm hk, ih]

theorem pickLoop_append (g : Bool) (k : SetId → List Proto) (m : VMap) (cvs pre post : List Int) (st : St)
    (h : ∀ w ∈ pre, w ∉ cvs) :
    pickLoop g k m cvs (pre ++ post) st = pickLoop g k m cvs post (pre.foldl (fun s v => visit g k m v s) st) := by
  induction pre generalizing st with
  | nil => rfl
  | cons v pre ih =>
    have hv : clientHas cvs v = false := by
      simpa [← clientHas_iff] using h v mem_cons_self
    simp only [cons_append, pickLoop, hv, Bool.false_eq_true, if_false, foldl_cons]
    exact ih _ fun w hw => h w (mem_cons_of_mem _ hw)

theorem foldl_visit_proto (k : SetId → List Proto) (m : VMap) (vs : List Int) (st : St) :
    (vs.foldl (fun s v => visit false k m v s) st).2.1 = st.2.1 := by
  induction vs generalizing st with
  | nil => rfl
  | cons v vs ih => rw [foldl_cons, ih]; rfl

/-- The loops look at the map only through `m[v]`, at the client's list only
through membership, and at a set only through its first plugin: a relation between
recorded states that every visit preserves is preserved by the loop. -/
theorem pickLoop_rel (R : St → St → Prop) (g g' : Bool) (k k' : SetId → List Proto) (m m' : VMap)
    (cvs cvs' : List Int)
    (hv : ∀ v a b, R a b → R (visit g k m v a) (visit g' k' m' v b))
    (hc : ∀ v, clientHas cvs v = clientHas cvs' v) :
    ∀ (vs : List Int) (a b : St), R a b →
      (pickLoop g k m cvs vs a).1 = (pickLoop g' k' m' cvs' vs b).1 ∧
      R (pickLoop g k m cvs vs a).2 (pickLoop g' k' m' cvs' vs b).2 := by
  intro vs
  induction vs with
  | nil => intro a b h; exact ⟨rfl, h⟩
  | cons v vs ih =>
    intro a b h
    simp only [pickLoop]
    rw [← hc v]
    by_cases hcv : clientHas cvs v = true
    · simp only [hcv, if_true]; exact ⟨trivial, hv v a b h⟩
    · simp only [hcv]; exact ih _ _ (hv v a b h)

/-- `protocolVersion` on a folded map: the visit of the highest key the client
has, else of the lowest key; `init` on an empty map. -/
theorem pickMap_eq_visit (P : Params) (hP : P.Good)
    (g : Bool) (k : SetId → List Proto) (init : St) (m : VMap) (cvs : List Int) :
    (m = [] ∧ pickMap P g k init m cvs = init) ∨
    ∃ v st', pickMap P g k init m cvs = visit g k m v st' ∧ v ∈ keys m ∧
      (g = false → st'.2.1 = init.2.1) ∧
      ((v ∈ cvs ∧ ∀ w ∈ keys m, w ∈ cvs → w ≤ v) ∨ ((∀ w ∈ keys m, w ∉ cvs) ∧ ∀ w ∈ keys m, v ≤ w)) := by
  simp only [pickMap, hP.versionsDesc, hP.fallbackLast, if_true]
  have hs := sortBy_sorted true (keys m)
  have hmem := mem_sortBy true (keys m)
  have hcl : ∀ w, w ∈ sortBy P.clientDesc cvs ↔ w ∈ cvs := mem_sortBy _ _
  generalize sortBy true (keys m) = vs at hs hmem
  generalize sortBy P.clientDesc cvs = cs at hcl
  have hpt : ∀ pre : List Int, g = false → (pre.foldl (fun s v => visit g k m v s) init).2.1 = init.2.1 :=
    fun pre hg => by subst hg; exact foldl_visit_proto k m pre init
  cases hfind : vs.find? (fun v => clientHas cs v) with
  | some v =>
    -- the loop returns at the first version the client has; the later ones are lower
    obtain ⟨hv, pre, post, rfl, hpre⟩ := find?_eq_some_iff_append.1 hfind
    have hpre' : ∀ w ∈ pre, w ∉ cs := fun w hw hc => by simpa [(clientHas_iff cs w).2 hc] using hpre w hw
    rw [pickLoop_append g k m cs pre _ init hpre']
    simp only [pickLoop, hv, if_true]
    refine .inr ⟨v, _, rfl, (hmem v).1 (by simp), hpt pre,
      .inl ⟨(hcl v).1 ((clientHas_iff cs v).1 hv), fun w hw hwc => ?_⟩⟩
    rcases mem_append.1 ((hmem w).2 hw) with h | h
    · exact absurd ((hcl w).2 hwc) (hpre' w h)
    · rcases mem_cons.1 h with rfl | h
      · exact Int.le_refl _
      · obtain ⟨-, hFromV, -⟩ := pairwise_append.1 hs
        exact (pairwise_cons.1 hFromV).1 w h
  | none =>
    have hno : ∀ w ∈ vs, w ∉ cs := fun w hw hc => by
      simpa [(clientHas_iff cs w).2 hc] using find?_eq_none.1 hfind w hw
    rcases eq_nil_or_concat vs with rfl | ⟨pre, v, rfl⟩
    · left
      refine ⟨?_, rfl⟩
      cases m with
      | nil => rfl
      | cons e rest => exact absurd ((hmem e.1).2 (by simp [keys])) (by simp)
    · -- the loop runs to the end; the last version visited is the lowest
      rw [concat_eq_append] at hs hmem hno ⊢
      rw [pickLoop_append g k m cs pre _ init fun w hw => hno w (mem_append_left _ hw)]
      have hv : clientHas cs v = false := by simpa [← clientHas_iff] using hno v (by simp)
      simp only [pickLoop, hv, Bool.false_eq_true, if_false]
      refine .inr ⟨v, _, rfl, (hmem v).1 (by simp), hpt pre,
        .inr ⟨fun w hw hwc => hno w ((hmem w).2 hw) ((hcl w).2 hwc), fun w hw => ?_⟩⟩
      rcases mem_append.1 ((hmem w).2 hw) with h | h
      · obtain ⟨-, -, hPreBeforeV⟩ := pairwise_append.1 hs
        exact hPreBeforeV w h v (by simp)
      · rw [mem_singleton.1 h]; exact Int.le_refl _

/-- The returned set is the one registered under the returned version: one visit records both. -/
theorem pickMap_set (P : Params) (hP : P.Good) (g : Bool) (k : SetId → List Proto) (init : St) (m : VMap)
    (cvs : List Int) (hne : m ≠ []) :
    (pickMap P g k init m cvs).2.2 = lookup m (pickMap P g k init m cvs).1 := by
  rcases pickMap_eq_visit P hP g k init m cvs with ⟨rfl, -⟩ | ⟨v, st', h, -⟩
  · exact absurd rfl hne
  · rw [h]
    rfl

theorem pickMap_common (P : Params) (hP : P.Good) (g : Bool) (k : SetId → List Proto) (init : St) (m : VMap)
    (cvs : List Int) (hc : ∃ v, v ∈ cvs ∧ v ∈ keys m) :
    (pickMap P g k init m cvs).1 ∈ cvs ∧ (pickMap P g k init m cvs).1 ∈ keys m ∧
    ∀ w, w ∈ cvs → w ∈ keys m → w ≤ (pickMap P g k init m cvs).1 := by
  obtain ⟨w, hw, hwk⟩ := hc
  rcases pickMap_eq_visit P hP g k init m cvs with ⟨rfl, -⟩ | ⟨v, st', h, hk, -, ⟨hvc, hmax⟩ | ⟨hno, -⟩⟩
  · simp [keys] at hwk
  · rw [h]
    exact ⟨hvc, hk, fun w hw hwk => hmax w hwk hw⟩
  · exact absurd hw (hno w hwk)

theorem pickMap_disjoint (P : Params) (hP : P.Good) (g : Bool) (k : SetId → List Proto) (init : St) (m : VMap)
    (cvs : List Int) (hd : ∀ v, v ∈ cvs → v ∉ keys m) (hne : m ≠ []) :
    (pickMap P g k init m cvs).1 ∈ keys m ∧ ∀ w, w ∈ keys m → (pickMap P g k init m cvs).1 ≤ w := by
  rcases pickMap_eq_visit P hP g k init m cvs with ⟨rfl, -⟩ | ⟨v, st', h, hk, -, ⟨hvc, -⟩ | ⟨-, hmin⟩⟩
  · exact absurd rfl hne
  · exact absurd hk (hd v hvc)
  · rw [h]
    exact ⟨hk, hmin⟩

theorem pickMap_nil (P : Params) (g : Bool) (k : SetId → List Proto) (init : St) (cvs : List Int) :
    pickMap P g k init [] cvs = init := by
  simp [pickMap, keys, sortBy, pickLoop]

theorem pickMap_proto (P : Params) (hP : P.Good)
    (g : Bool) (k : SetId → List Proto) (init : St) (m : VMap) (cvs : List Int) :
    (g = false → (pickMap P g k init m cvs).2.1 = init.2.1) ∧
    (g = true → ∀ s x xs, lookup m (pickMap P g k init m cvs).1 = some s → k s = x :: xs →
      (pickMap P g k init m cvs).2.1 = x) := by
  rcases pickMap_eq_visit P hP g k init m cvs with ⟨rfl, h⟩ | ⟨v, st', h, _, hpt, _⟩
  · rw [h]
    exact ⟨fun _ => rfl, fun _ s x xs hl => by simp [lookup] at hl⟩
  · rw [h]
    refine ⟨fun hg => ?_, fun hg s x xs hl hk => ?_⟩
    · rw [← hpt hg]; simp [visit, hg]
    · simp only [visit] at hl ⊢
      simp [hg, hl, hk]

/-- A relation between recorded states that every visit preserves is preserved by `protocolVersion`
(`pickLoop_rel` for the loop), for maps with the same keys and client lists with the same members.
Everything about order irrelevance is an instance (`R := Eq`, or agreement on version and set only). -/
theorem pickMap_rel (R : St → St → Prop) (P P' : Params) (hd : P.versionsDesc = P'.versionsDesc)
    (hf : P.fallbackLast = P'.fallbackLast) {g g' : Bool} {k k' : SetId → List Proto} {init init' : St}
    {m m' : VMap} (cvs cvs' : List Int)
    (hv : ∀ v a b, R a b → R (visit g k m v a) (visit g' k' m' v b))
    (hk : (keys m).Perm (keys m')) (hm : ∀ v, v ∈ cvs ↔ v ∈ cvs') (h0 : R init init') :
    R (pickMap P g k init m cvs) (pickMap P' g' k' init' m' cvs') := by
  have hc : ∀ v, clientHas (sortBy P.clientDesc cvs) v = clientHas (sortBy P'.clientDesc cvs') v := by
    intro v
    rw [Bool.eq_iff_iff, clientHas_iff, clientHas_iff, mem_sortBy, mem_sortBy]
    exact hm v
  simp only [pickMap]
  rw [← hd, ← hf, ← sortBy_eq_of_perm P.versionsDesc hk]
  obtain ⟨hb, hr⟩ := pickLoop_rel R g g' k k' m m' _ _ hv hc (sortBy P.versionsDesc (keys m)) init init' h0
  generalize pickLoop g k m _ _ init = p at hb hr ⊢
  generalize pickLoop g' k' m' _ _ init' = p' at hb hr ⊢
  obtain ⟨b, r⟩ := p
  obtain ⟨b', r'⟩ := p'
  cases hb
  cases b with
  | true => exact hr
  | false =>
    cases P.fallbackLast with
    | true => exact hr
    | false =>
      cases sortBy P.versionsDesc (keys m) with
      | nil => exact h0
      | cons v _ => exact hv v _ _ h0

end GoPlugin.Negotiate
