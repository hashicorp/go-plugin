import GoPlugin.Props.C06
import GoPlugin.Props.IdAlloc
import GoPlugin.Generated.Facts
import GoPlugin.Props.Hygiene
/- C06 at the facts extracted from the current source. -/
namespace GoPlugin.Instance.C06
open MuxBroker Props.C06

theorem facts_good : Facts.muxBroker.Good := by decide

/-- the pending windows of `Accept` and of a parked stream are the documented five seconds -/
theorem windows_five_seconds : Facts.muxBroker.acceptWindow = 5000 ∧ Facts.muxBroker.expiryWindow = 5000 := by decide

theorem holds_window_success (s : State) (h : Reachable Facts.muxBroker s) (n : Nat)
    (hfresh : s.map n = none) (hrun : s.run = .idle) (hq : s.queue = []) :
    (∃ s', runFrom Facts.muxBroker s [.accept n, .dial n, .runTake, .runPark, .accTake s.nAccs] = some s' ∧
        s'.streams s.nStreams = some ⟨n, .taken s.nAccs⟩) ∧
    (∃ s', runFrom Facts.muxBroker s [.dial n, .runTake, .runPark, .accept n, .accTake s.nAccs] = some s' ∧
        s'.streams s.nStreams = some ⟨n, .taken s.nAccs⟩) :=
  dispense_reaches_its_server _ facts_good s h n hfresh hrun hq

/-- the byte-level facts of `Dial`/`Run`/`Accept` at the current source -/
theorem frame_good : Facts.muxFrame.Good := by decide

theorem holds_app_bytes_complete (hdr app : Bytes) (hh : hdr.length = 4) (k : Nat) :
    MuxFrame.readHeader Facts.muxFrame ((MuxFrame.sent hdr app).take (4 + k)) ((MuxFrame.sent hdr app).drop (4 + k)) = some (hdr, app) :=
  app_bytes_complete _ frame_good hdr app hh k

theorem idalloc_good : Facts.idAllocMux.Good := by decide

/-- `MuxBroker.NextId` never hands the same ID to two callers, however their calls interleave -/
theorem holds_ids_distinct (es : List IdAlloc.Ev) (s : IdAlloc.State) (hr : IdAlloc.runFrom Facts.idAllocMux IdAlloc.init es = some s) :
    s.issued.Nodup := (Props.IdAlloc.ids_distinct _ idalloc_good es s hr).1

theorem holds_accept_bookkeeping (nothingParked : Bool) (n m : Nat) :
    timeoutReleasesLock Facts.muxAccept nothingParked = true ∧ acceptSlotAfterDial Facts.muxAccept n m = true :=
  accept_bookkeeping _ (by decide) nothingParked n m

theorem holds_one_slot_per_id (together : Bool) : Hygiene.slotsAfterRendezvous Facts.hygiene together = 1 :=
  Props.Hygiene.one_slot_per_id _ (by decide) together

theorem holds_dispense_ids_distinct (d r : Nat) : (Hygiene.outstandingIds Facts.hygiene d r).Nodup :=
  Props.Hygiene.dispense_ids_distinct _ (by decide) d r

end GoPlugin.Instance.C06
