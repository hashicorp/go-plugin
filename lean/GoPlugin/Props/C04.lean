import GoPlugin.Model.Kill
import GoPlugin.Lemmas.Lifecycle
/-
C04 — Kill always ends the plugin process in bounded time, gracefully if possible.

Quantifiers: both wire protocols, every shutdown behaviour of the plugin
(exits quickly, exits too slowly, ignores the request, frozen, already dead),
whether or not the reply to the shutdown request is lost to the plugin's exit,
whether or not the client ever completed its handshake, whether or not a
protocol client can be created.  Repeated / concurrent Kill calls are
covered on the `Lifecycle` model.
-/
namespace GoPlugin.Kill
namespace Params.Good
variable {P : Params} (h : P.Good)
include h
private theorem graceMs : P.graceMs = 2000 := h.1
private theorem forceAfterGrace : P.forceAfterGrace = true := h.2.1
private theorem shutdownRpcHasDeadline : P.shutdownRpcHasDeadline = true := h.2.2.1
private theorem quitEofIsGraceful : P.quitEofIsGraceful = true := h.2.2.2.1
private theorem waitsForGoroutines : P.waitsForGoroutines = true := h.2.2.2.2.1
private theorem runnerClearedAfterWait : P.runnerClearedAfterWait = true := h.2.2.2.2.2.1
private theorem rpcKeepAlive : P.rpcKeepAlive = true := h.2.2.2.2.2.2.1
private theorem runnerKeptBeforeStart : P.runnerKeptBeforeStart = true := h.2.2.2.2.2.2.2.1
private theorem grpcStopImmediate : P.grpcStopImmediate = true := h.2.2.2.2.2.2.2.2
end Params.Good
namespace CleanupParams.Good
variable {C : CleanupParams} (h : C.Good)
include h
private theorem registersAtConstruction : C.registersAtConstruction = true := h.1
private theorem killsEach : C.killsEach = true := h.2.1
private theorem waitsAll : C.waitsAll = true := h.2.2
end CleanupParams.Good
end GoPlugin.Kill

namespace GoPlugin.Props.C04
open Kill

def pGood : Params := ⟨2000, true, true, true, true, true, true, true, true⟩

def closeMs : Proto → Beh → Nat
  | .netrpc, .frozen => libDeadPeerMs
  | .grpc, .frozen => shutdownDeadlineMs
  | _, _ => 0

private theorem close_good (P : Params) (hP : P.Good) (proto : Proto) (beh : Beh) (lost : Bool) :
    close P proto beh lost = (.ok, closeMs proto beh) := by
  cases proto <;> cases beh <;>
    simp [close, closeMs, hP.shutdownRpcHasDeadline, hP.quitEofIsGraceful, hP.rpcKeepAlive]

theorem kill_good (P : Params) (hP : P.Good) (proto : Proto) (beh : Beh) (lost hasAddr clientOk : Bool) :
    kill P proto beh lost hasAddr clientOk =
      { returns := true
        forced := !(hasAddr && clientOk && (beh == .deadAlready || beh == .exitsFast))
        procDead := true
        exitedFlag := true
        cleanedUp := hasAddr && clientOk && beh == .exitsFast
        boundMs := if hasAddr && clientOk then closeMs proto beh + 2000 else 0 } := by
  have hc := close_good P hP proto beh lost
  unfold kill
  -- without a protocol client nothing is closed and `kill` force-kills; with one `Close()` succeeds (`hc`) and `beh`
  -- decides whether the plugin exits by itself within the grace period
  cases hasAddr <;> cases clientOk <;>
    simp only [Bool.and_true, Bool.and_false, Bool.false_and, if_true, if_false, Bool.false_eq_true, hc] <;>
    cases beh <;> simp [hP.graceMs, hP.forceAfterGrace, hP.waitsForGoroutines]

private theorem closeMs_le (proto : Proto) (beh : Beh) :
    closeMs proto beh ≤ libDeadPeerMs ∧ (beh ≠ .frozen → closeMs proto beh = 0) ∧
    (proto = .grpc → closeMs proto beh ≤ shutdownDeadlineMs) := by
  cases proto <;> cases beh <;> simp [closeMs, libDeadPeerMs, shutdownDeadlineMs]

/-- **Kill returns, within a bound**: never more than the shutdown RPC's own bound (0, the RPC deadline,
or the library's dead-peer detection for a frozen net/rpc plugin) plus the grace period. -/
theorem kill_terminates (P : Params) (hP : P.Good) (proto : Proto) (beh : Beh) (lost hasAddr clientOk : Bool) :
    (kill P proto beh lost hasAddr clientOk).returns = true ∧
    (kill P proto beh lost hasAddr clientOk).boundMs ≤ libDeadPeerMs + 2000 ∧
    (beh ≠ .frozen → (kill P proto beh lost hasAddr clientOk).boundMs ≤ 2000) ∧
    (proto = .grpc → (kill P proto beh lost hasAddr clientOk).boundMs ≤ shutdownDeadlineMs + 2000) := by
  obtain ⟨hAny, hNotFrozen, hGrpc⟩ := closeMs_le proto beh
  have hb : (if (hasAddr && clientOk) = true then closeMs proto beh + 2000 else 0) ≤ closeMs proto beh + 2000 := by
    split <;> omega
  rw [kill_good P hP]
  refine ⟨rfl, ?_, fun h => ?_, fun h => ?_⟩ <;> dsimp only
  · omega
  · have := hNotFrozen h; omega
  · have := hGrpc h; omega

/-- **When Kill returns the process has exited and the client reports it as exited.** -/
theorem kill_leaves_dead (P : Params) (hP : P.Good) (proto : Proto) (beh : Beh) (lost hasAddr clientOk : Bool) :
    (kill P proto beh lost hasAddr clientOk).procDead = true ∧ (kill P proto beh lost hasAddr clientOk).exitedFlag = true := by
  rw [kill_good P hP]
  exact ⟨rfl, rfl⟩

/-- **Concurrent Kills**: a `Kill` that overlaps another one also returns only when the process has exited
and the client reports it as exited (it does not take the other call's word for it). -/
theorem overlapping_kill_leaves_dead (P : Params) (hP : P.Good) (proto : Proto) (beh : Beh) (lost hasAddr closeAgainOk : Bool) :
    (killDuring P proto beh lost hasAddr closeAgainOk).returns = true ∧
    (killDuring P proto beh lost hasAddr closeAgainOk).procDead = true ∧
    (killDuring P proto beh lost hasAddr closeAgainOk).exitedFlag = true := by
  -- with the runner reference cleared only after the wait, the overlapping call is a `Kill` of its own
  rw [killDuring, if_pos hP.runnerClearedAfterWait, kill_good P hP]
  exact ⟨rfl, rfl, rfl⟩

/-- **A plugin that exits on its own shortly after the shutdown request is not force-killed** and
finishes its cleanup — on both protocols, and whether or not its reply to the request was lost. -/
theorem graceful_not_forced (P : Params) (hP : P.Good) (proto : Proto) (lost : Bool) :
    (kill P proto .exitsFast lost true true).forced = false ∧ (kill P proto .exitsFast lost true true).cleanedUp = true := by
  rw [kill_good P hP]
  exact ⟨rfl, rfl⟩

/-- the net/rpc race in which the exiting plugin is gone before the host has closed its remaining streams: `Kill` issues
its force kill against a process that has already exited — the plugin still finished its clean-up, is dead and reported
as exited, and `Kill` returned at once -/
theorem gone_peer_force_is_harmless (P : Params) (hP : P.Good) :
    (killGonePeer P).cleanedUp = true ∧ (killGonePeer P).procDead = true ∧ (killGonePeer P).exitedFlag = true ∧
    (killGonePeer P).returns = true ∧ (killGonePeer P).boundMs = 0 := by
  simp [killGonePeer, hP.waitsForGoroutines]

/-- **A plugin that does not exit in time is force-killed after the grace period** (too slow, ignoring, frozen). -/
theorem forced_after_grace (P : Params) (hP : P.Good) (proto : Proto) (beh : Beh) (lost : Bool)
    (hb : beh = .exitsSlow ∨ beh = .ignores ∨ beh = .frozen) :
    (kill P proto beh lost true true).forced = true := by
  rw [kill_good P hP]
  rcases hb with rfl | rfl | rfl <;> rfl

/-- A client that never completed its handshake (or cannot create a protocol client) is force-killed at once. -/
theorem never_started_forced (P : Params) (proto : Proto) (beh : Beh) (lost clientOk : Bool) :
    (kill P proto beh lost false clientOk).forced = true ∧ (kill P proto beh lost false clientOk).returns = true ∧
    (kill P proto beh lost false clientOk).boundMs = 0 := by
  simp [kill]

open Lifecycle in
/-- **Kill may be repeated**: once a Kill has completed there is nothing left to kill; further Kills
are no-ops that change neither the process table nor the number of `runner.Kill` calls. -/
theorem kill_idempotent (P : Lifecycle.Params) (s s' : State) (a b : Bool)
    (hr : s.runner = none) (hs : step P s (.killA a b) = some s') :
    s'.procs = s.procs ∧ s'.kills = s.kills ∧ s'.runner = none :=
  killA_noop P hr hs

open Lifecycle in
/-- … and a completed Kill leaves no runner behind. -/
theorem kill_clears_runner (P : Lifecycle.Params) (s s1 s2 : State) (a b : Bool)
    (hp : s.pendingKills = []) (h1 : step P s (.killA a b) = some s1) (h2 : step P s1 .killB = some s2) :
    s2.runner = none := by
  -- the second half of `Kill` clears the runner whenever it runs at all (`hp` and `h1` play no part)
  simp only [step] at h2
  split at h2
  · cases h2
    rfl
  · cases h2

/-- **A launch that failed inside a custom runner's `Start` after the runner had created the process is still ended by
Kill**: `runner.Kill` is called and the process is gone when Kill returns (at once). -/
theorem failed_runner_start_is_killed (P : Params) (hP : P.Good) :
    (killStartFailed P).returns = true ∧ (killStartFailed P).forced = true ∧ (killStartFailed P).procDead = true ∧
    (killStartFailed P).boundMs = 0 := by
  simp [killStartFailed, hP.runnerKeptBeforeStart]

/-- **A busy plugin is allowed to finish its clean-up too**: with a request still in flight when Kill is called, a gRPC
plugin whose own clean-up fits in the grace period is not force-killed. -/
theorem busy_plugin_finishes_cleanup (P : Params) (hP : P.Good) (cleanupMs : Nat) (hc : cleanupMs < 2000) :
    (killBusy P cleanupMs).forced = false ∧ (killBusy P cleanupMs).cleanedUp = true ∧ (killBusy P cleanupMs).procDead = true ∧
    (killBusy P cleanupMs).exitedFlag = true := by
  simp [killBusy, hP.graceMs, hP.grpcStopImmediate, hc, hP.waitsForGoroutines]

private theorem foldl_max_le (l : List Outcome) (b acc : Nat) (hacc : acc ≤ b) (h : ∀ o ∈ l, o.boundMs ≤ b) :
    l.foldl (fun acc o => max acc o.boundMs) acc ≤ b := by
  induction l generalizing acc with
  | nil => exact hacc
  | cons o os ih => exact ih _ (Nat.max_le.2 ⟨hacc, h o List.mem_cons_self⟩) fun x hx => h x (List.mem_cons_of_mem _ hx)

/-- **CleanupClients ends every managed client's plugin, whatever state each is in, in bounded time**: for ANY list of
managed clients (any number, any mix of protocols, shutdown behaviours, lost replies, failed handshakes), when
`CleanupClients` returns every plugin has exited and is reported as exited, and the call took no longer than the slowest
single Kill (they run in parallel). -/
theorem cleanup_clients_all_dead (P : Params) (hP : P.Good) (C : CleanupParams) (hC : C.Good) (ms : List Managed) :
    (∀ o ∈ cleanupAll P C ms, o.returns = true ∧ o.procDead = true ∧ o.exitedFlag = true) ∧
    cleanupBoundMs P C ms ≤ libDeadPeerMs + 2000 := by
  have hone : ∀ m, cleanupOne P C m = kill P m.proto m.beh m.replyLost m.hasAddr m.clientOk := fun m => by
    simp only [cleanupOne, hC.registersAtConstruction, hC.killsEach, hC.waitsAll, Bool.and_self, if_true]
  have hkill := fun m : Managed => kill_terminates P hP m.proto m.beh m.replyLost m.hasAddr m.clientOk
  simp only [cleanupBoundMs, cleanupAll, List.forall_mem_map, hone]
  exact ⟨fun m _ => ⟨(hkill m).1, kill_leaves_dead P hP ..⟩,
    foldl_max_le _ _ 0 (Nat.zero_le _) (List.forall_mem_map.2 fun m _ => hone m ▸ (hkill m).2.1)⟩

/-- non-vacuity: three managed clients in different states -/
example : (cleanupAll pGood ⟨true, true, true⟩ [⟨.grpc, .ignores, false, true, true⟩, ⟨.netrpc, .exitsFast, true, true, true⟩,
    ⟨.grpc, .deadAlready, false, false, true⟩]).map (·.procDead) = [true, true, true] := by decide

/-- Witnesses: a client registered only when it is started is not in the list if it was never started; a loop that
returns without waiting says nothing about plugins whose Kill is still running -/
theorem cleanup_witnesses :
    (cleanupOne pGood ⟨false, true, true⟩ ⟨.grpc, .ignores, false, true, true⟩).procDead = false ∧
    (cleanupOne pGood ⟨true, true, false⟩ ⟨.grpc, .ignores, false, true, true⟩).procDead = false := by decide

/-- if the Shutdown handler lets in-flight requests drain first, the plugin's clean-up starts late and a clean-up of one
second is cut short by the force kill -/
theorem drain_first_witness :
    (killBusy ⟨2000, true, true, true, true, true, true, true, false⟩ 1000).forced = true ∧
    (killBusy ⟨2000, true, true, true, true, true, true, true, false⟩ 1000).cleanedUp = false := by decide

/-- if `Start` records the runner only once `runner.Start` has succeeded, Kill after such a failed launch finds nothing to
kill and the process the runner created runs on -/
theorem runner_dropped_witness :
    (killStartFailed ⟨2000, true, true, true, true, true, true, false, true⟩).procDead = false := by decide

/-- D3: a gRPC plugin frozen with SIGSTOP: without a deadline on the shutdown RPC, Kill never returns. -/
theorem frozen_grpc_witness : (kill ⟨2000, true, false, true, true, true, true, true, true⟩ .grpc .frozen false true true).returns = false := by decide

/-- net/rpc: the plugin exits as soon as it has handled Quit; if the lost reply counts as a failed close,
a plugin that is exiting on its own is force-killed at once and may not finish its cleanup. -/
theorem lost_reply_witness :
    (kill ⟨2000, true, true, false, true, true, true, true, true⟩ .netrpc .exitsFast true true true).forced = true ∧
    (kill ⟨2000, true, true, false, true, true, true, true, true⟩ .netrpc .exitsFast true true true).cleanedUp = false := by decide

/-- without the force-kill after the grace period an ignoring plugin survives Kill -/
theorem no_force_witness : (kill ⟨2000, false, true, true, true, true, true, true, true⟩ .grpc .ignores false true true).procDead = false := by decide

/-- with the runner reference dropped in `Kill`'s first lock section, an overlapping `Kill` returns at once while the
plugin is still alive (and `Exited()` is false) -/
theorem early_clear_witness :
    (killDuring ⟨2000, true, true, true, true, false, true, true, true⟩ .grpc .ignores false true true).returns = true ∧
    (killDuring ⟨2000, true, true, true, true, false, true, true, true⟩ .grpc .ignores false true true).procDead = false := by decide

/-- with keep-alive switched off on the host's yamux session nothing ever ends the `Control.Quit` call to a frozen
net/rpc plugin: `Kill` does not return -/
theorem no_keepalive_witness : (kill ⟨2000, true, true, true, true, true, false, true, true⟩ .netrpc .frozen false true true).returns = false := by decide

/-- a longer grace period is a longer bound -/
theorem grace_bound_witness : (kill ⟨200000, true, true, true, true, true, true, true, true⟩ .grpc .ignores false true true).boundMs = 200000 := by decide

example : kill pGood .netrpc .exitsFast true true true = ⟨true, false, true, true, true, 2000⟩ := by decide
example : kill pGood .grpc .frozen false true true = ⟨true, true, true, true, false, 4000⟩ := by decide
-- frozen net/rpc plugin: the dead-peer detection ends the pending Quit with EOF (a "successful" close), then the grace period, then the force kill
example : kill pGood .netrpc .frozen false true true = ⟨true, true, true, true, false, 42000⟩ := by decide

/-- **Overlapping Kills keep the grace period**: a plugin that exits on its own shortly after the shutdown request is not
force-killed and finishes its clean-up also when a second `Kill` begins while the first one is waiting for it —
whatever closing the closed protocol client again would report. -/
theorem overlapping_kill_keeps_grace (O : OverlapParams) (hO : O.Good) (P : Params) (hP : P.Good) (proto : Proto)
    (lost closeAgainOk : Bool) :
    (overlapped O P proto .exitsFast lost true closeAgainOk).forced = false ∧
    (overlapped O P proto .exitsFast lost true closeAgainOk).cleanedUp = true := by
  have hs : O.serialised = true := hO
  simp only [overlapped, hs, if_true]
  exact graceful_not_forced P hP proto lost

/-- Witness: not serialised, the second `Kill` finds the client closed, takes the error for a failed graceful shutdown and
force-kills the plugin in the middle of its clean-up -/
theorem overlapping_kill_witness :
    (overlapped ⟨false⟩ ⟨2000, true, true, true, true, true, true, true, true⟩ .grpc .exitsFast false true false).forced = true ∧
    (overlapped ⟨false⟩ ⟨2000, true, true, true, true, true, true, true, true⟩ .grpc .exitsFast false true false).cleanedUp = false := by decide

end GoPlugin.Props.C04
