import GoPlugin.Props.C12
import GoPlugin.Generated.Facts
import GoPlugin.Props.Hygiene
/-
C12 instantiated at the facts extracted from the current source (tie T-A):
the obligation `facts_good` is re-checked on every run.
-/
namespace GoPlugin.Instance.C12
open TlsPolicy Props.C12

/-- The current source has the structural facts the C12 theorems need: both
AutoMTLS `tls.Config`s say `RequireAndVerifyClientCert`, TLS ≥ 1.2, carry a
`generateCert` certificate, verify the peer against the certificates' DNS name
as `ServerName`, and have BOTH pools pinned to the
other side's one-time certificate (PLUGIN_CLIENT_CERT resp. handshake field 6);
and every listener and dial of every path is given that configuration. -/
theorem facts_good : Facts.tls.Good := by decide

theorem holds_only_host_served (w : World) (path : Path) (p : Peer)
    (hpath : path.pluginListens = true) (hon : HonestIssuer w.hostKey w.hostCert p)
    (h : serves Facts.tls w path p = true) : p.chain.head? = some w.hostCert ∧ w.hostKey ∈ p.holds :=
  only_host_served _ facts_good w path p hpath hon h

theorem holds_plugin_talks_only_to_host (w : World) (path : Path) (p : Peer)
    (hpath : path.pluginListens = false) (hon : HonestIssuer w.hostKey w.hostCert p)
    (h : talksTo Facts.tls w path p = true) : p.chain.head? = some w.hostCert ∧ w.hostKey ∈ p.holds :=
  plugin_talks_only_to_host _ facts_good w path p hpath hon h

theorem holds_only_plugin_trusted (w : World) (path : Path) (p : Peer)
    (hon : HonestIssuer w.pluginKey w.announced p)
    (h : (path.pluginListens = true ∧ talksTo Facts.tls w path p = true) ∨
         (path.pluginListens = false ∧ serves Facts.tls w path p = true)) :
    p.chain.head? = some w.announced ∧ w.pluginKey ∈ p.holds :=
  only_plugin_trusted _ facts_good w path p hon h

theorem holds_every_path_wrapped (path : Path) :
    listenWrapped Facts.tls path = true ∧ dialWrapped Facts.tls path = true :=
  have ⟨hListen, hDial, _⟩ := every_path_wrapped _ facts_good path
  ⟨hListen, hDial⟩

theorem holds_intruder_refused (w : World) (path : Path) (p : Peer)
    (hh : HonestIssuer w.hostKey w.hostCert p) (hp : HonestIssuer w.pluginKey w.announced p)
    (nh : w.hostKey ∉ p.holds) (np : w.pluginKey ∉ p.holds) :
    serves Facts.tls w path p = false ∧ talksTo Facts.tls w path p = false :=
  intruder_refused _ facts_good w path p hh hp nh np

theorem holds_legit_pair_connects (w : World) (hn : w.announced.name = certName) (hn' : w.hostCert.name = certName)
    (path : Path) :
    (path.pluginListens = true → serves Facts.tls w path (hostAs Facts.tls w) = true ∧ talksTo Facts.tls w path (pluginAs Facts.tls w) = true) ∧
    (path.pluginListens = false → serves Facts.tls w path (pluginAs Facts.tls w) = true ∧ talksTo Facts.tls w path (hostAs Facts.tls w) = true) :=
  legit_pair_connects _ facts_good w hn hn' path

theorem holds_pin_consulted_on_every_connection (k : Nat) : Hygiene.pinConsulted Facts.hygiene k = true :=
  Props.Hygiene.pin_consulted_on_every_connection _ (by decide) k

theorem holds_own_certificate_effective (rewrite : List (String × String) → List (String × String)) (inherited : List (String × String)) (val : String) :
    Hygiene.effective (Hygiene.childEnv Facts.hygiene rewrite (inherited ++ [("PLUGIN_CLIENT_CERT", val)])) "PLUGIN_CLIENT_CERT" = some val :=
  Props.Hygiene.own_value_effective _ (by decide) rewrite inherited "PLUGIN_CLIENT_CERT" val

end GoPlugin.Instance.C12
