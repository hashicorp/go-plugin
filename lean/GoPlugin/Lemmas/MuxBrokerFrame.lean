import GoPlugin.Lemmas.MuxBroker
/-
Frame lemma for the MuxBroker model: an event that is about id `m` leaves
everything labelled with another id `n` untouched — the map entry of `n`, the
slots created for `n`, the Accept goroutines for `n`, the streams whose header
is `n`, the expiry goroutines for `n`.  This is what "any number of
concurrently outstanding distinct ids" rests on.
-/
namespace GoPlugin.MuxBroker

/-- the id an event is about (`none`: the clock) -/
def eventId (s : State) : Event → Option Nat
  | .dial id => some id
  | .accept id => some id
  | .accTake g => (s.accs g).map (·.id)
  | .accTimeout g => (s.accs g).map (·.id)
  | .twDone t => (s.tws t).map (·.id)
  | .twTimer t => (s.tws t).map (·.id)
  | .twFinish t => (s.tws t).map (·.id)
  | .twUnblock t => (s.tws t).map (·.id)
  | .runTake => match s.queue with
    | sid :: _ => (s.streams sid).map (·.id)
    | [] => none
  | .runPark => match s.run with
    | .have id _ _ => some id
    | _ => none
  | .tick _ => none
  | .abort => none

/-- everything labelled `n` is the same in `s'` as in `s` -/
structure SameFor (n : Nat) (s s' : State) : Prop where
  map_eq : s'.map n = s.map n
  slots_eq : ∀ k (sl : Slot), s.slots k = some sl → sl.id = n → s'.slots k = some sl
  accs_eq : ∀ g (a : Acc), s.accs g = some a → a.id = n → s'.accs g = some a
  streams_eq : ∀ sid (x : Stream), s.streams sid = some x → x.id = n → s'.streams sid = some x
  tws_eq : ∀ t (w : Tw), s.tws t = some w → w.id = n → s'.tws t = some w

variable {n : Nat} {s s' : State}

theorem sameFor_refl (n : Nat) (s : State) : SameFor n s s :=
  ⟨rfl, fun _ _ h _ => h, fun _ _ h _ => h, fun _ _ h _ => h, fun _ _ h _ => h⟩

theorem label_ne {α : Type} {o : Option α} {a : α} {f : α → Nat} (ho : o = some a) (h : o.map f ≠ some n) : f a ≠ n :=
  fun e => h (by rw [ho, Option.map_some, e])

variable (h : SameFor n s s')
include h

theorem SameFor.setStream {sid : Nat} {x : Stream} (hx : s'.streams sid = some x) (hne : x.id ≠ n) (st : StreamSt) :
    SameFor n s (setStream s' sid st) :=
  -- `{ h with … }`: the clauses not listed are those of `h`, the states agree by reduction on what they read
  { h with streams_eq := fun _ _ hy hyi => upd_keep_having (p := (·.id = n)) hx hne (h.streams_eq _ _ hy hyi) hyi }

theorem SameFor.setSlot {k : Nat} {sl : Slot} (hx : s'.slots k = some sl) (hne : sl.id ≠ n) (f : Slot → Slot) :
    SameFor n s (setSlot s' k f) :=
  { h with slots_eq := fun _ _ hy hyi => upd_keep_having (p := (·.id = n)) hx hne (h.slots_eq _ _ hy hyi) hyi }

theorem SameFor.setAcc {g : Nat} {a : Acc} (hx : s'.accs g = some a) (hne : a.id ≠ n) (pc : AccPc) :
    SameFor n s (setAcc s' g pc) :=
  { h with accs_eq := fun _ _ hy hyi => upd_keep_having (p := (·.id = n)) hx hne (h.accs_eq _ _ hy hyi) hyi }

theorem SameFor.setTw {t : Nat} {w : Tw} (hx : s'.tws t = some w) (hne : w.id ≠ n) (pc : TwPc) :
    SameFor n s (setTw s' t pc) :=
  { h with tws_eq := fun _ _ hy hyi => upd_keep_having (p := (·.id = n)) hx hne (h.tws_eq _ _ hy hyi) hyi }

theorem SameFor.mapErase {i : Nat} (hne : i ≠ n) : SameFor n s { s' with map := upd s'.map i none } :=
  { h with map_eq := (upd_ne _ _ (Ne.symm hne)).trans h.map_eq }

theorem SameFor.getStream {id : Nat} (hf : s'.slots s'.nSlots = none) (hne : id ≠ n) : SameFor n s (getStream s' id).1 := by
  rcases getStream_cases s' id with ⟨k, _, e⟩ | ⟨_, e⟩ <;> rw [e]
  · exact h
  · exact { h with
      map_eq := (upd_ne _ _ (Ne.symm hne)).trans h.map_eq
      slots_eq := fun _ _ hk hi => upd_fresh_old hf (h.slots_eq _ _ hk hi) }

theorem SameFor.parkStart (P : Params) (hf : s'.tws s'.nTws = none) (id k : Nat) : SameFor n s (parkStart P s' id k) :=
  { h with tws_eq := fun _ _ hw hi => upd_fresh_old hf (h.tws_eq _ _ hw hi) }

theorem SameFor.setRun (r : RunPc) : SameFor n s { s' with run := r } := { h with }
theorem SameFor.setQueue (q : List Nat) : SameFor n s { s' with queue := q } := { h with }
theorem SameFor.setLock (l : Option Nat) : SameFor n s { s' with lock := l } := { h with }

omit h

theorem Step.sameFor {P : Params} {e : Event} (hc : Consistent s) (hs : Step P s e s') (hid : eventId s e ≠ some n) :
    SameFor n s s' := by
  -- every entry the event modifies carries the event's id; what it allocates has a fresh index
  have h0 := sameFor_refl n s
  cases hs with
  | dial id =>
    exact { h0 with
      streams_eq := fun _ _ hx _ => upd_fresh_old (hc.fresh_streams _ (Nat.le_refl _)) hx }
  | @runTake sid q x hrun hq hl hx =>
    have hne : x.id ≠ n := fun e => hid (by simp [eventId, hq, hx, e])
    exact (((h0.setQueue q).getStream (hc.fresh_slots _ (Nat.le_refl _)) hne).setRun _).setStream
      (by rw [getStream_streams]; exact hx) hne _
  | @runPark id k sid sl hrun hk hb =>
    have hne : id ≠ n := fun e => hid (by simp [eventId, hrun, e])
    obtain ⟨hsl, hst⟩ := hc.run_id id k sid hrun
    exact ((h0.parkStart P (hc.fresh_tws _ (Nat.le_refl _)) id k).setSlot hk (hsl.id_eq hk ▸ hne) _).setStream hst hne _
  | @runDrop id k sid sl sid' hrun hk hb =>
    have hne : id ≠ n := fun e => hid (by simp [eventId, hrun, e])
    exact (h0.parkStart P (hc.fresh_tws _ (Nat.le_refl _)) id k).setStream (hc.run_id id k sid hrun).2 hne _
  | abort hrun => split <;> exact { h0 with }
  | accept id hl =>
    have h1 : SameFor n s (getStream s id).1 :=
      h0.getStream (hc.fresh_slots _ (Nat.le_refl _)) (fun e => hid (by simp [eventId, e]))
    refine { h1 with accs_eq := fun _ _ ha hi => upd_fresh_old ?_ (h1.accs_eq _ _ ha hi) }
    rw [getStream_accs]; exact hc.fresh_accs _ (Nat.le_refl _)
  | @accPanic g a sl sid ha hpc hk hb hd =>
    have hne : a.id ≠ n := label_ne ha hid
    exact (h0.setSlot hk ((hc.acc_id g a ha).id_eq hk ▸ hne) _).setAcc ha hne _
  | @accTake g a sl sid ha hpc hk hb hd =>
    have hne : a.id ≠ n := label_ne ha hid
    have hsl : sl.id ≠ n := (hc.acc_id g a ha).id_eq hk ▸ hne
    exact ((h0.setSlot hk hsl _).setStream (hc.buf_st _ _ _ hk hb) hsl _).setAcc ha hne _
  | @accTimeout g a ha hl hpc hd =>
    have hne : a.id ≠ n := label_ne ha hid
    exact (h0.mapErase hne).setAcc ha hne _
  | @twDone t w sl hw hpc hk hd => exact h0.setTw hw (label_ne hw hid) _
  | @twTimer t w hw hpc hd => exact h0.setTw hw (label_ne hw hid) _
  | @twFinishDrain t w timeout sl sid hw hl hpc hk hc' hb =>
    have hne : w.id ≠ n := label_ne hw hid
    have hsl : sl.id ≠ n := (hc.tw_id t w hw).id_eq hk ▸ hne
    exact (((h0.mapErase hne).setSlot hk hsl _).setStream (hc.buf_st _ _ _ hk hb) hsl _).setTw hw hne _
  | @twFinishSkip t w timeout sl hw hl hpc hk hc' =>
    have hne : w.id ≠ n := label_ne hw hid
    exact (h0.mapErase hne).setTw hw hne _
  | @twBlock t w timeout sl hw hl hpc hk hc' hb hdf =>
    have hne : w.id ≠ n := label_ne hw hid
    exact ((h0.mapErase hne).setLock _).setTw hw hne _
  | @twUnblock t w sl sid hw hl hpc hk hb =>
    have hne : w.id ≠ n := label_ne hw hid
    have hsl : sl.id ≠ n := (hc.tw_id t w hw).id_eq hk ▸ hne
    exact (((h0.setSlot hk hsl _).setStream (hc.buf_st _ _ _ hk hb) hsl _).setLock _).setTw hw hne _
  | tick d => exact { h0 with }

/-- **Frame lemma**: an event about another id (or the clock) changes nothing labelled `n`. -/
theorem other_ids_do_not_disturb (P : Params) (n : Nat) (s s' : State) (e : Event)
    (hc : Consistent s) (hs : step P s e = some s') (hid : eventId s e ≠ some n) : SameFor n s s' :=
  Step.sameFor hc (.of_step hs) hid

end GoPlugin.MuxBroker
