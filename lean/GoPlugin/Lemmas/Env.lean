import GoPlugin.Model.Env
/-
Theorems about the environment model of `Model/Env.lean`: key and value of an entry `k=v`,
the last-wins lookup `effective` over appended and filtered lists, the facts of `Params.Good` by name.
-/
namespace GoPlugin.Env

namespace Params.Good
variable {P : Params} (h : P.Good)
include h
theorem guardedBySkip : P.hostGuardedBySkip = true := h.1
theorem stripsConditional : ∀ k ∈ conditionalKeys, k ∈ P.stripped := h.2.1
theorem stripsOnlyOwn : ∀ k ∈ P.stripped, k ∈ negotiationKeys := h.2.2.1
theorem perElement : P.filterPerElement = true := h.2.2.2.1
theorem configuredLast : P.configuredLast = true := h.2.2.2.2.1
theorem stdinFromStart : P.stdinFromStart = true := h.2.2.2.2.2
end Params.Good

theorem keyOf_entry (k v : Bytes) (h : eqc ∉ k) : keyOf (entry k v) = some k := by
  unfold entry
  induction k with
  | nil => simp [keyOf]
  | cons c cs ih => simp [keyOf, (List.ne_of_not_mem_cons h).symm, ih (List.not_mem_of_not_mem_cons h)]

theorem valOf_entry (k v : Bytes) (h : eqc ∉ k) : valOf (entry k v) = v := by
  unfold entry
  induction k with
  | nil => simp [valOf]
  | cons c cs ih => simp [valOf, (List.ne_of_not_mem_cons h).symm, ih (List.not_mem_of_not_mem_cons h)]

/-- An entry's key (when it has one) is what `strings.Cut` returns. -/
theorem cutKey_of_keyOf (e k : Bytes) (h : keyOf e = some k) : cutKey e = k := by
  -- arms of `keyOf`: 1 the end is reached without a `=`, 2 the `=` is reached, 3 a byte of the key is passed
  fun_induction keyOf e generalizing k with
  | case1 => cases h
  | case2 cs => cases h; simp [cutKey]
  | case3 c cs hc ih =>
    obtain ⟨k', hk, rfl⟩ := Option.map_eq_some_iff.1 h
    simp [cutKey, hc, ih k' hk]

theorem effective_append (a b : List Bytes) (k : Bytes) :
    effective (a ++ b) k = (effective b k).or (effective a k) := by
  induction a with
  | nil => simp [effective]
  | cons e es ih =>
    simp only [List.cons_append, effective, ih]
    cases effective b k <;> simp

theorem effective_cons_entry (k' v : Bytes) (es : List Bytes) (k : Bytes) (h : eqc ∉ k') :
    effective (entry k' v :: es) k = (effective es k).or (if k' = k then some v else none) := by
  simp [effective, keyOf_entry k' v h, valOf_entry k' v h]

theorem effective_nil (k : Bytes) : effective [] k = none := rfl

theorem effective_filter_none (stripped : List Bytes) (env : List Bytes) (k : Bytes) (hk : k ∈ stripped) :
    effective (env.filter (fun e => !(stripped.contains (cutKey e)))) k = none := by
  induction env with
  | nil => rfl
  | cons e es ih =>
    by_cases hdrop : stripped.contains (cutKey e) = true
    · rw [List.filter_cons_of_neg (by simpa using hdrop)]
      exact ih
    · -- a kept entry does not carry `k`: its key is not stripped, `k` is
      have hne : keyOf e ≠ some k := fun hkey =>
        hdrop (by rw [cutKey_of_keyOf e k hkey]; exact List.contains_iff_mem.2 hk)
      rw [List.filter_cons_of_pos (by simpa using hdrop)]
      simp only [effective, ih, Option.none_or, if_neg hne]

end GoPlugin.Env
