import GoPlugin.Model.Resources
import GoPlugin.Lemmas.GrpcMux
/-
C18 — Graceful shutdown leaves no sockets, temp directories or goroutines behind.

Quantifiers: every structural-fact record `P` with the `Good…`
facts, every behaviour `L` of the libraries the call graph passes through, every
configuration (protocol × multiplexing × TLS × launch method) and EVERY history (list of
dispense / brokered callback / stdio / ping ops of any length), followed by a graceful
`Kill` and the plugin's exit.

PARTIAL: the theorems say that every entry's release condition is implied by the events
the shutdown produces.  That a goroutine whose release condition holds actually exits,
and that a `Close` that is reached actually runs, is runtime behaviour (exercised by the
correspondence run, not proved).

On a tree where a fact is false the general theorems do not apply; the witness theorems
below show, fact by fact, what is then left behind (`d9_…` is the upstream tree:
`GRPCServerMuxer.Close` does not close the listener it wraps).
-/

namespace GoPlugin.Resources

/-- The edges `GoodFiles` and `GoodFilesPartial` have in common: all but who closes the brokered listeners, and when. -/
private structure FilesCore (P : Params) : Prop where
  killClosesClient : P.killClosesClient = true
  killRemovesSocketDir : P.killRemovesSocketDir = true
  grpcCloseClosesBroker : P.grpcCloseClosesBroker = true
  grpcCloseShutsDown : P.grpcCloseShutsDown = true
  rpcCloseCallsQuit : P.rpcCloseCallsQuit = true
  shutdownStopsServer : P.shutdownStopsServer = true
  stopStopsGrpcServer : P.stopStopsGrpcServer = true
  stopClosesBroker : P.stopClosesBroker = true
  serveDefersListenerClose : P.serveDefersListenerClose = true
  muxerCloseClosesWrappedListener : P.muxerCloseClosesWrappedListener = true
  brokeredListenerIsRmListener : P.brokeredListenerIsRmListener = true
  listenerRemovesFile : P.listenerRemovesFile = true

namespace Params
variable {P : Params}

private theorem GoodFiles.core (h : P.GoodFiles) : FilesCore P where
  killClosesClient := h.1
  killRemovesSocketDir := h.2.1
  grpcCloseClosesBroker := h.2.2.1
  grpcCloseShutsDown := h.2.2.2.1
  rpcCloseCallsQuit := h.2.2.2.2.1
  shutdownStopsServer := h.2.2.2.2.2.1
  stopStopsGrpcServer := h.2.2.2.2.2.2.1
  stopClosesBroker := h.2.2.2.2.2.2.2.1
  serveDefersListenerClose := h.2.2.2.2.2.2.2.2.2.2.1
  muxerCloseClosesWrappedListener := h.2.2.2.2.2.2.2.2.2.2.2.1
  brokeredListenerIsRmListener := h.2.2.2.2.2.2.2.2.2.2.2.2.1
  listenerRemovesFile := h.2.2.2.2.2.2.2.2.2.2.2.2.2
private theorem GoodFiles.stopClosesBrokerFirst (h : P.GoodFiles) : P.stopClosesBrokerFirst = true :=
  h.2.2.2.2.2.2.2.2.1
private theorem GoodFiles.brokerCloseClosesListeners (h : P.GoodFiles) : P.brokerCloseClosesListeners = true :=
  h.2.2.2.2.2.2.2.2.2.1

private theorem GoodFilesPartial.core (h : P.GoodFilesPartial) : FilesCore P where
  killClosesClient := h.1
  killRemovesSocketDir := h.2.1
  grpcCloseClosesBroker := h.2.2.1
  grpcCloseShutsDown := h.2.2.2.1
  rpcCloseCallsQuit := h.2.2.2.2.1
  shutdownStopsServer := h.2.2.2.2.2.1
  stopStopsGrpcServer := h.2.2.2.2.2.2.1
  stopClosesBroker := h.2.2.2.2.2.2.2.1
  serveDefersListenerClose := h.2.2.2.2.2.2.2.2.1
  muxerCloseClosesWrappedListener := h.2.2.2.2.2.2.2.2.2.1
  brokeredListenerIsRmListener := h.2.2.2.2.2.2.2.2.2.2.2.2.1
  listenerRemovesFile := h.2.2.2.2.2.2.2.2.2.2.2.2.2
private theorem GoodFilesPartial.acceptAndServeClosesListener (h : P.GoodFilesPartial) :
    P.acceptAndServeClosesListener = true := h.2.2.2.2.2.2.2.2.2.2.1
private theorem GoodFilesPartial.acceptAndServeEndsOnBrokerDone (h : P.GoodFilesPartial) :
    P.acceptAndServeEndsOnBrokerDone = true := h.2.2.2.2.2.2.2.2.2.2.2.1

private theorem GoodGoroutines.killClosesClient (h : P.GoodGoroutines) : P.killClosesClient = true := h.1
private theorem GoodGoroutines.grpcCloseClosesBroker (h : P.GoodGoroutines) : P.grpcCloseClosesBroker = true := h.2.2.1
private theorem GoodGoroutines.acceptAndServeClosesListener (h : P.GoodGoroutines) :
    P.acceptAndServeClosesListener = true := h.2.2.2.1
private theorem GoodGoroutines.acceptAndServeEndsOnBrokerDone (h : P.GoodGoroutines) :
    P.acceptAndServeEndsOnBrokerDone = true := h.2.2.2.2.1

end Params

namespace FilesCore
variable {P : Params} (hC : FilesCore P)
include hC

private theorem hostBrokerDone_eq : hostBrokerDone P = true := by
  simp [hostBrokerDone, hostClosed, hC.killClosesClient, hC.grpcCloseClosesBroker]

private theorem shutdownSent_eq (c : Cfg) : shutdownSent P c = true := by
  cases h : c.proto <;>
    simp [shutdownSent, hostClosed, h, hC.killClosesClient, hC.grpcCloseShutsDown, hC.rpcCloseCallsQuit]

private theorem pluginStopCalled_eq (c : Cfg) : pluginStopCalled P c = (c.proto == .grpc) := by
  simp [pluginStopCalled, hC.shutdownSent_eq, hC.shutdownStopsServer]

private theorem pluginDone_eq (c : Cfg) : pluginDone P c = true := by
  cases h : c.proto <;>
    simp [pluginDone, grpcServerStopped, hC.pluginStopCalled_eq, hC.shutdownSent_eq, hC.stopStopsGrpcServer, h]

private theorem pluginBrokerDone_eq (c : Cfg) : pluginBrokerDone P c = (c.proto == .grpc) := by
  simp [pluginBrokerDone, hC.pluginStopCalled_eq, hC.stopClosesBroker]

private theorem mainFileRemoved_eq (L : Lib) (c : Cfg) : mainFileRemoved P L c = true := by
  have hw : (mainWrappers c).all (wrapPropagates P) = true := by
    fun_cases mainWrappers c <;> simp [wrapPropagates, hC.muxerCloseClosesWrappedListener]
  simp [mainFileRemoved, outerMainClosed, hC.pluginDone_eq, hC.serveDefersListenerClose, hw, hC.listenerRemovesFile]

private theorem brokeredRemoves_eq : brokeredRemoves P = true := by
  simp [brokeredRemoves, hC.brokeredListenerIsRmListener, hC.listenerRemovesFile]

private theorem dirRemoved_eq (c : Cfg) : dirRemoved P c = (c.launch == .runner) := by
  simp [dirRemoved, hC.killRemovesSocketDir]

private theorem mainSocket_released (L : Lib) (c : Cfg) : fileStatus P L c .mainSocket = .released := by
  simp [fileStatus, ofBool, hC.mainFileRemoved_eq]

private theorem socketDir_released (L : Lib) (c : Cfg) : fileStatus P L c .socketDir = .released := by
  simp [fileStatus, ofBool, hC.killRemovesSocketDir]

private theorem hostBrokered_released (L : Lib) (c : Cfg)
    (hH : P.brokerCloseClosesListeners = true ∨
      (P.acceptAndServeEndsOnBrokerDone = true ∧ P.acceptAndServeClosesListener = true)) :
    fileStatus P L c .hostBrokeredSocket = .released := by
  simp only [fileStatus, hC.hostBrokerDone_eq, hC.brokeredRemoves_eq, servedListenerClosed]
  rcases hH with h | ⟨h1, h2⟩
  · simp [ofBool, h]
  · simp [ofBool, h1, h2]

private theorem pluginBrokered_eq (L : Lib) (c : Cfg) :
    fileStatus P L c .pluginBrokeredSocket =
      if c.proto == .netrpc || c.muxOn then .released
      else if c.launch == .runner then .released
      else if P.stopClosesBrokerFirst && P.brokerCloseClosesListeners then .released
      else if P.acceptAndServeEndsOnBrokerDone && (P.acceptAndServeClosesListener || L.grpcStopClosesListeners) then .racy
      else .remains := by
  simp only [fileStatus, hC.dirRemoved_eq, hC.pluginDone_eq, hC.pluginBrokerDone_eq, hC.brokeredRemoves_eq,
    servedListenerClosed]
  cases c.proto <;> simp

end FilesCore

end GoPlugin.Resources

namespace GoPlugin.Props.C18
open Resources

private theorem fileStatus_released (P : Params) (L : Lib) (c : Cfg) (k : FileKind) (hG : P.GoodFiles) :
    fileStatus P L c k = .released := by
  cases k with
  | mainSocket => exact hG.core.mainSocket_released L c
  | socketDir => exact hG.core.socketDir_released L c
  | hostBrokeredSocket => exact hG.core.hostBrokered_released L c (Or.inl hG.brokerCloseClosesListeners)
  | pluginBrokeredSocket =>
    simp [hG.core.pluginBrokered_eq, hG.stopClosesBrokerFirst, hG.brokerCloseClosesListeners]

private theorem gorReleased_true (P : Params) (L : Lib) (g : Gor) (hG : P.GoodGoroutines) :
    gorReleased P L g = true := by
  have hb : hostBrokerDone P = true := by
    simp [hostBrokerDone, hostClosed, hG.killClosesClient, hG.grpcCloseClosesBroker]
  -- every row of the table is the peer's exit, a timer, or hangs on the host broker's `Close`
  fun_cases gorReleased P L g <;>
    simp [peerGone, timerFired, servedListenerClosed, hb, hG.acceptAndServeClosesListener,
      hG.acceptAndServeEndsOnBrokerDone]

/-- What holds of every file entry and of every goroutine entry holds of every entry of every history: the lists
`baseEntries` and `opEntries` are written out from `fileEntry`s and `gorEntry`s (induction over the op list). -/
private theorem entries_all (P : Params) (L : Lib) (c : Cfg) (Q : Entry → Prop)
    (hf : ∀ k, Q (fileEntry P L c k)) (hg : ∀ g, Q (gorEntry P L g)) :
    ∀ (h : List Op), ∀ e ∈ entries P L c h, Q e := by
  have hbase : ∀ e ∈ baseEntries P L c, Q e := by
    unfold baseEntries
    cases c.launch <;> cases c.proto <;> simp [hf, hg]
  have hop : ∀ op, ∀ e ∈ opEntries P L c op, Q e := by
    intro op
    fun_cases opEntries P L c op <;> simp [hf, hg]
  intro h
  induction h with
  | nil => simpa [entries, historyEntries] using hbase
  | cons op rest ih =>
    intro e he
    simp only [entries, historyEntries, List.mem_append] at he ih
    rcases he with he | he | he
    · exact hbase e he
    · exact hop op e he
    · exact ih e (Or.inr he)

private theorem files_released (P : Params) (L : Lib) (c : Cfg) (h : List Op) (hG : P.GoodFiles) :
    ∀ e ∈ entries P L c h, e.isFile = true → e.status = .released :=
  entries_all P L c _ (fun k _ => fileStatus_released P L c k hG) (fun g hf => by simp [gorEntry, Entry.isFile] at hf) h

private theorem goroutines_released (P : Params) (L : Lib) (c : Cfg) (h : List Op) (hG : P.GoodGoroutines) :
    ∀ e ∈ entries P L c h, e.isFile = false → e.status = .released :=
  entries_all P L c _ (fun k hf => by simp [fileEntry, Entry.isFile] at hf)
    (fun g _ => by simp [gorEntry, ofBool, gorReleased_true P L g hG]) h

private theorem mem_leftFiles_of_nil {P : Params} {L : Lib} {c : Cfg} {e : Entry} (h0 : leftFiles P L c [] = [e])
    (h : List Op) : e ∈ leftFiles P L c h := by
  have he : e ∈ leftFiles P L c [] := h0 ▸ List.mem_singleton.2 rfl
  simp only [leftFiles, ledgerAfter, entries, historyEntries, List.append_nil, List.mem_filter, List.mem_append] at he ⊢
  exact ⟨⟨Or.inl he.1.1, he.1.2⟩, he.2⟩

/-- **No socket file or temp directory remains**: for every history and configuration, with the
call-graph edges of `GoodFiles` present, the ledger after a graceful `Kill` and the plugin's exit
holds no file entry — not even a racy one. -/
theorem ledger_empty_files (P : Params) (L : Lib) (c : Cfg) (h : List Op) (hG : P.GoodFiles) :
    leftFiles P L c h = [] := by
  simp only [leftFiles, ledgerAfter, List.filter_filter, List.filter_eq_nil_iff]
  intro e he
  simpa using files_released P L c h hG e he

example : goodParams.GoodFiles := by decide
example : (entries goodParams ⟨true⟩ ⟨.grpc, false, true, .runner⟩ [.dispense, .callback, .emit, .callback]).length = 18 := by
  decide

/-- **No host goroutine remains**: the release condition of every goroutine entry — one per `go`
site that runs in the host role, plus the caller parked in `AcceptAndServe` — is implied by the
events `Kill` and the plugin's exit guarantee.  (PARTIAL: that such a goroutine then exits is
runtime behaviour.) -/
theorem ledger_empty_goroutines (P : Params) (L : Lib) (c : Cfg) (h : List Op) (hG : P.GoodGoroutines) :
    leftGoroutines P L c h = [] := by
  simp only [leftGoroutines, ledgerAfter, List.filter_filter, List.filter_eq_nil_iff]
  intro e he
  simpa using goroutines_released P L c h hG e he

example : goodParams.GoodGoroutines := by decide

theorem ledger_empty (P : Params) (L : Lib) (c : Cfg) (h : List Op) (hG : P.Good) : ledgerAfter P L c h = [] := by
  simp only [ledgerAfter, List.filter_eq_nil_iff]
  intro e he
  cases hf : e.isFile
  · simp [goroutines_released P L c h hG.2 e he hf]
  · simp [files_released P L c h hG.1 e he hf]

/-- The form that holds while `GRPCServer.Stop` / `GRPCBroker.Close` leave the plugin-side brokered
sockets to the `AcceptAndServe` goroutines (facts `stopClosesBrokerFirst`, `brokerCloseClosesListeners`
false, everything else in place): the ONLY file entries that can be left are plugin-side brokered
sockets that lost the race against the plugin's exit, and only with gRPC, no multiplexing and a
`Cmd` launch.  (`_partial`: excludes exactly that race; `ledger_empty_files` is the full statement.) -/
theorem ledger_empty_files_partial (P : Params) (L : Lib) (c : Cfg) (h : List Op) (hG : P.GoodFilesPartial) :
    ∀ e ∈ leftFiles P L c h,
      e = ⟨.file .pluginBrokeredSocket, .racy⟩ ∧ c.proto = .grpc ∧ c.mux = false ∧ c.launch = .cmd := by
  have hC := hG.core
  have hServeCloses := hG.acceptAndServeClosesListener
  have hServeEnds := hG.acceptAndServeEndsOnBrokerDone
  have hall := entries_all P L c
    (fun e => e.isFile = true → e.status ≠ .released →
      e = ⟨.file .pluginBrokeredSocket, .racy⟩ ∧ c.proto = .grpc ∧ c.mux = false ∧ c.launch = .cmd)
    (by
      intro k _ hs
      cases k with
      | mainSocket => exact absurd (hC.mainSocket_released L c) hs
      | socketDir => exact absurd (hC.socketDir_released L c) hs
      | hostBrokeredSocket => exact absurd (hC.hostBrokered_released L c (Or.inr ⟨hServeEnds, hServeCloses⟩)) hs
      | pluginBrokeredSocket =>
        -- of the five arms of `pluginBrokered_eq` the first three are released and the facts exclude the last
        simp only [fileEntry, hC.pluginBrokered_eq] at hs ⊢
        cases hp : c.proto <;> cases hm : c.mux <;> cases hl : c.launch <;>
          simp [Cfg.muxOn, hp, hm, hl, hServeCloses, hServeEnds] at hs ⊢
        exact hs)
    (by intro g hf; simp [gorEntry, Entry.isFile] at hf)
    h
  intro e he
  simp only [leftFiles, ledgerAfter, List.mem_filter] at he
  obtain ⟨⟨hm, hs⟩, hfile⟩ := he
  exact hall e hm hfile (by simpa using hs)

example : ({ goodParams with stopClosesBrokerFirst := false, brokerCloseClosesListeners := false }).GoodFilesPartial := by
  decide

/-- The premise "the plugin exits gracefully" is itself a consequence of the call graph:
`Kill` makes `plugin.Serve` return in every configuration. -/
theorem plugin_exits_gracefully (P : Params) (c : Cfg) (hG : P.GoodFiles) : pluginDone P c = true :=
  hG.core.pluginDone_eq c

/-- `Kill` returns only after the goroutines `Start` launched are gone (they are the ones in
`clientWaitGroup`): the socket directory is removed with none of them running. -/
theorem start_goroutines_gone_at_kill_return (P : Params) (hW : P.killWaitsForGoroutines = true) (s : Site)
    (hs : s ∈ [Site.startLogStderr, .startWait, .startScan, .startDrain]) : goneAtKillReturn P s = true := by
  simp only [List.mem_cons, List.not_mem_nil, or_false] at hs
  rcases hs with rfl | rfl | rfl | rfl <;> simp [goneAtKillReturn, Site.inClientWaitGroup, hW]

/-- Site accounting: 32 `go` sites, 18 of which can run in the host role; the model's list is
sorted and duplicate free (so `goSites = knownSites` is an equality of sets with multiplicity). -/
theorem site_accounting :
    allSites.length = 32 ∧ (allSites.filter Site.hostRole).length = 18 ∧ knownSites = List.range' 1 32 := by decide

/-- Every host-role site is an entry of some session of the model, except the three that are
outside the histories considered (`CleanupClients`' helper, which only calls `Kill`, the
wait goroutine of a reattached client, and the discard of a stream announced for a multiplexed
listener that was closed before it accepted it — which ends with the session). -/
theorem host_sites_covered (s : Site) (hs : s.hostRole = true) :
    s = .cleanupKill ∨ s = .reattachWait ∨ s = .muxCliDiscard ∨
    ∃ c, (gorEntry goodParams ⟨true⟩ (.site s)) ∈ entries goodParams ⟨true⟩ c [.callback] := by
  cases s <;> simp [Site.hostRole] at hs <;> simp
  -- the net/rpc sites show in a net/rpc session, all the others in a multiplexed gRPC session
  case rpcCliBrokerRun | rpcCliCopyOut | rpcCliCopyErr | muxTimeoutWait =>
    exact ⟨⟨.netrpc, false, false, .cmd⟩, by decide⟩
  all_goals exact ⟨⟨.grpc, true, false, .cmd⟩, by decide⟩

/-! ### Witnesses: what is left when a fact is false -/

/-- **D9** — the upstream tree: `GRPCServerMuxer.Close` closes only the yamux session.  With gRPC,
multiplexing and a `Cmd` launch the plugin's main socket file remains after a graceful `Kill`, for
every history (here the empty one) and whatever grpc-go closes. -/
theorem d9_main_socket_remains (L : Lib) (tls : Bool) :
    leftFiles { goodParams with muxerCloseClosesWrappedListener := false } L ⟨.grpc, true, tls, .cmd⟩ [] =
      [⟨.file .mainSocket, .remains⟩] := by
  cases L with | mk g => cases g <;> cases tls <;> decide

/-- … and it remains after every history. -/
theorem d9_main_socket_remains_always (L : Lib) (tls : Bool) (h : List Op) :
    ⟨.file .mainSocket, .remains⟩ ∈
      leftFiles { goodParams with muxerCloseClosesWrappedListener := false } L ⟨.grpc, true, tls, .cmd⟩ h :=
  mem_leftFiles_of_nil (d9_main_socket_remains L tls) h

/-- With a `RunnerFunc` launch the same defect is masked: the socket lives in the runner's
directory, which `Kill` removes.  Without multiplexing there is no muxer to pass through. -/
theorem d9_only_mux_cmd (L : Lib) (tls : Bool) (h : List Op) (c : Cfg)
    (hc : c = ⟨.grpc, true, tls, .runner⟩ ∨ c = ⟨.grpc, false, tls, .cmd⟩ ∨ c = ⟨.netrpc, true, tls, .cmd⟩) :
    ⟨.file .mainSocket, .remains⟩ ∉
      ledgerAfter { goodParams with muxerCloseClosesWrappedListener := false } L c h := by
  intro hm
  simp only [ledgerAfter, List.mem_filter] at hm
  refine entries_all _ L c (fun e => e ≠ ⟨.file .mainSocket, .remains⟩) (fun k => ?_) (fun g => ?_) h _ hm.1 rfl
  · cases k
    case mainSocket =>
      -- in these configurations the main socket's own entry is released
      rcases hc with rfl | rfl | rfl <;> cases tls <;> cases L with | mk g => cases g <;> decide
    all_goals simp [fileEntry]
  · simp [gorEntry]

/-- **Plugin-side brokered sockets race the plugin's exit** — `GRPCServer.Stop` stops the grpc
server (which lets `Serve`, then `main`, return) BEFORE it closes the broker, and `GRPCBroker.Close`
only wakes the `AcceptAndServe` goroutines: whether their `defer ln.Close()` runs before the
process is gone is a race.  gRPC without multiplexing, `Cmd` launch, one brokered connection
accepted by the plugin. -/
theorem plugin_brokered_socket_racy (L : Lib) (tls : Bool) :
    leftFiles { goodParams with stopClosesBrokerFirst := false } L ⟨.grpc, false, tls, .cmd⟩ [.callback] =
      [⟨.file .pluginBrokeredSocket, .racy⟩] ∧
    leftFiles { goodParams with brokerCloseClosesListeners := false } L ⟨.grpc, false, tls, .cmd⟩ [.callback] =
      [⟨.file .pluginBrokeredSocket, .racy⟩] := by
  cases L with | mk g => cases g <;> cases tls <;> decide

/-- The host does not remove the runner's socket directory. -/
theorem socket_dir_needs_removeall (L : Lib) :
    leftFiles { goodParams with killRemovesSocketDir := false } L ⟨.netrpc, false, false, .runner⟩ [] =
      [⟨.file .socketDir, .remains⟩] := by
  cases L with | mk g => cases g <;> decide

/-- `AcceptAndServe` without `defer ln.Close()` (and a `GRPCBroker.Close` that does not close the
listeners itself, as on the upstream tree): the brokered sockets stay — unless grpc-go closes the
listener of the server the run group stops (which the grpc-go in use does; the fact is required
so that the cleanup does not rest on that). -/
theorem accept_and_serve_needs_close :
    leftFiles { goodParams with acceptAndServeClosesListener := false, brokerCloseClosesListeners := false }
        ⟨false⟩ ⟨.grpc, false, false, .cmd⟩ [.callback] =
      [⟨.file .hostBrokeredSocket, .remains⟩, ⟨.file .pluginBrokeredSocket, .remains⟩] ∧
    leftFiles { goodParams with acceptAndServeClosesListener := false, brokerCloseClosesListeners := false }
        ⟨true⟩ ⟨.grpc, false, false, .cmd⟩ [.callback] =
      [⟨.file .pluginBrokeredSocket, .racy⟩] ∧
    -- an AcceptAndServe that does not watch `doneCh` never closes anything
    leftFiles { goodParams with acceptAndServeEndsOnBrokerDone := false, brokerCloseClosesListeners := false }
        ⟨true⟩ ⟨.grpc, false, false, .cmd⟩ [.callback] =
      [⟨.file .hostBrokeredSocket, .remains⟩, ⟨.file .pluginBrokeredSocket, .remains⟩] := by
  decide

/-- Each remaining edge of the file half is needed: drop it and some file stays. -/
theorem file_facts_needed :
    -- Kill does not close the protocol client: no graceful exit, the main socket stays
    leftFiles { goodParams with killClosesClient := false } ⟨true⟩ ⟨.netrpc, false, false, .cmd⟩ [] ≠ [] ∧
    leftFiles { goodParams with grpcCloseShutsDown := false } ⟨true⟩ ⟨.grpc, false, false, .cmd⟩ [] ≠ [] ∧
    leftFiles { goodParams with rpcCloseCallsQuit := false } ⟨true⟩ ⟨.netrpc, false, false, .cmd⟩ [] ≠ [] ∧
    leftFiles { goodParams with shutdownStopsServer := false } ⟨true⟩ ⟨.grpc, false, false, .cmd⟩ [] ≠ [] ∧
    leftFiles { goodParams with stopStopsGrpcServer := false } ⟨true⟩ ⟨.grpc, false, false, .cmd⟩ [] ≠ [] ∧
    leftFiles { goodParams with serveDefersListenerClose := false } ⟨true⟩ ⟨.netrpc, false, true, .cmd⟩ [] ≠ [] ∧
    leftFiles { goodParams with listenerRemovesFile := false } ⟨true⟩ ⟨.grpc, false, false, .cmd⟩ [] ≠ [] ∧
    -- the host broker is not closed / the brokered listener is not an rmListener: host-side brokered socket
    leftFiles { goodParams with grpcCloseClosesBroker := false } ⟨true⟩ ⟨.grpc, false, false, .cmd⟩ [.callback] ≠ [] ∧
    leftFiles { goodParams with brokeredListenerIsRmListener := false } ⟨true⟩ ⟨.grpc, false, false, .cmd⟩ [.callback] ≠ [] ∧
    -- the plugin's broker is never closed: plugin-side brokered socket
    leftFiles { goodParams with stopClosesBroker := false } ⟨true⟩ ⟨.grpc, false, false, .cmd⟩ [.callback] ≠ [] := by
  decide

/-- Each edge of the goroutine half is needed: drop it and a host goroutine is never released
(the caller parked in `AcceptAndServe`, or the knock listener of a multiplexed accept). -/
theorem goroutine_facts_needed :
    leftGoroutines { goodParams with killClosesClient := false } ⟨true⟩ ⟨.grpc, false, false, .cmd⟩ [.callback] ≠ [] ∧
    leftGoroutines { goodParams with grpcCloseClosesBroker := false } ⟨true⟩ ⟨.grpc, true, false, .cmd⟩ [.callback] ≠ [] ∧
    leftGoroutines { goodParams with acceptAndServeEndsOnBrokerDone := false } ⟨true⟩ ⟨.grpc, false, false, .cmd⟩ [.callback] ≠ [] ∧
    leftGoroutines { goodParams with acceptAndServeClosesListener := false } ⟨false⟩ ⟨.grpc, true, false, .cmd⟩ [.callback] =
      [⟨.gor (.site .grpcKnocks), .remains⟩] ∧
    (∃ s, goneAtKillReturn { goodParams with killWaitsForGoroutines := false } s = false ∧ s.inClientWaitGroup = true) := by
  refine ⟨by decide, by decide, by decide, by decide, ⟨.startWait, by decide⟩⟩

private theorem atKill_eq {P : Params} (hKill : P.killClosesClient = true) (hK : P.GoodKill) (k : AtKill) : P.atKill k = P := by
  unfold Params.GoodKill at hK
  cases k
  · rfl
  · cases P
    simp_all [Params.atKill, cleanupRuns]

/-- **After `Kill`, no socket file or temp directory remains — whatever the plugin's state at the
time of `Kill`**, including "already shut down by the host through `ClientProtocol.Close()` and
exited": for every history, configuration and state `k`, with the edges of `GoodFiles` and the fact
that `Kill`'s clean-up runs whenever a runner was recorded (`GoodKill`).  `ledger_empty_files` is
the instance `k = running` (`atKill_running`). -/
theorem ledger_empty_files_any_state (P : Params) (L : Lib) (c : Cfg) (h : List Op) (k : AtKill)
    (hG : P.GoodFiles) (hK : P.GoodKill) : leftFilesK P L c h k = [] := by
  rw [leftFilesK, atKill_eq hG.core.killClosesClient hK]
  exact ledger_empty_files P L c h hG

/-- … in particular the runner's socket directory is not among the leftovers. -/
theorem no_socket_dir_after_kill (P : Params) (L : Lib) (c : Cfg) (h : List Op) (k : AtKill)
    (hG : P.GoodFiles) (hK : P.GoodKill) : ∀ st, ⟨.file .socketDir, st⟩ ∉ leftFilesK P L c h k := by
  intro st hm
  rw [ledger_empty_files_any_state P L c h k hG hK] at hm
  cases hm

/-- **No host goroutine remains, whatever the plugin's state at the time of `Kill`.** -/
theorem ledger_empty_goroutines_any_state (P : Params) (L : Lib) (c : Cfg) (h : List Op) (k : AtKill)
    (hG : P.GoodGoroutines) (hK : P.GoodKill) : leftGoroutinesK P L c h k = [] := by
  rw [leftGoroutinesK, atKill_eq hG.killClosesClient hK]
  exact ledger_empty_goroutines P L c h hG

/-- `Kill` returns only after the goroutines `Start` launched are gone, in every state. -/
theorem start_goroutines_gone_at_kill_return_any_state (P : Params) (k : AtKill)
    (hW : P.killWaitsForGoroutines = true) (hK : P.GoodKill) (s : Site)
    (hs : s ∈ [Site.startLogStderr, .startWait, .startScan, .startDrain]) : goneAtKillReturn (P.atKill k) s = true := by
  apply start_goroutines_gone_at_kill_return _ _ s hs
  unfold Params.GoodKill at hK
  cases k <;> simp [Params.atKill, cleanupRuns, hW, hK]

/-- The ordinary histories are the state `running`: there the any-state theorems are `ledger_empty_files` and
`ledger_empty_goroutines`. -/
theorem atKill_running (P : Params) : P.atKill .running = P := rfl

example : goodParams.GoodKill := by decide
/-- non-vacuity: the state `exited` is a different evaluation of the graph when the fact is false … -/
example : ({ goodParams with killCleanupWheneverRunner := false }).atKill .exited ≠
    { goodParams with killCleanupWheneverRunner := false } := by decide
/-- … and the session the theorem speaks about does have a socket directory entry. -/
example : (⟨.file .socketDir, .released⟩ : Entry) ∈
    entries (goodParams.atKill .exited) ⟨true⟩ ⟨.grpc, false, false, .runner⟩ [.dispense, .callback] := by decide

/-- **Witness: the fact is needed.**  `Kill` with an early return above its `defer` that fires when
the plugin has already exited (every other edge in place): the runner's socket directory remains
after `Kill` — RunnerFunc launch, any protocol / multiplexing / TLS, the host closed the protocol
client and the plugin exited before `Kill`; here with the empty history, and nothing else remains. -/
theorem exited_before_kill_socket_dir_remains (L : Lib) (proto : Proto) (mux tls : Bool) :
    leftFilesK { goodParams with killCleanupWheneverRunner := false } L ⟨proto, mux, tls, .runner⟩ [] .exited =
      [⟨.file .socketDir, .remains⟩] := by
  cases L with | mk g => cases g <;> cases proto <;> cases mux <;> cases tls <;> decide

/-- … and it remains after every history. -/
theorem exited_before_kill_socket_dir_remains_always (L : Lib) (proto : Proto) (mux tls : Bool) (h : List Op) :
    ⟨.file .socketDir, .remains⟩ ∈
      leftFilesK { goodParams with killCleanupWheneverRunner := false } L ⟨proto, mux, tls, .runner⟩ h .exited :=
  mem_leftFiles_of_nil (exited_before_kill_socket_dir_remains L proto mux tls) h

/-- The same tree on the ordinary history (plugin running at `Kill`): nothing remains — which is why
no `Start … use … Kill` session can show the defect. -/
theorem exited_before_kill_needs_the_state (L : Lib) (c : Cfg) (h : List Op) :
    leftFilesK { goodParams with killCleanupWheneverRunner := false } L c h .running = [] :=
  ledger_empty_files _ L c h (by decide)

/-- Goroutine half of the witness: `Kill` no longer waits for the goroutines `Start` launched. -/
theorem exited_before_kill_not_waited :
    ∃ s, s.inClientWaitGroup = true ∧
      goneAtKillReturn (({ goodParams with killCleanupWheneverRunner := false }).atKill .exited) s = false :=
  ⟨.startWait, by decide, by decide⟩

/-- A `go` statement the model does not know (site number 0), or a known one that disappeared,
breaks `GoodGoroutines`: the goroutine theorem then says nothing about the tree. -/
theorem unknown_site_breaks_good :
    ¬ ({ goodParams with goSites := 0 :: knownSites }).GoodGoroutines ∧
    ¬ ({ goodParams with goSites := knownSites.tail }).GoodGoroutines := by decide

/-- **Each client removes its OWN socket directory**, also when several clients were configured with one
`UnixSocketConfig` value. -/
theorem kill_removes_own_dir (P : Params) (hP : P.socketDirOwnedByClient = true) (sharedCfg : Bool) :
    killRemovesOwnDir P sharedCfg = true := by simp [killRemovesOwnDir, hP]

/-- Witness: a client that writes its directory into the caller's struct removes a later client's directory and leaves
its own -/
theorem shared_config_witness : killRemovesOwnDir { goodParams with socketDirOwnedByClient := false } true = false := by decide

/-- **A launch that fails before there is a runner leaves no socket directory** (the former defect D16). -/
theorem no_dir_without_runner (P : Params) (hP : P.socketDirRemovedIfNoRunner = true) : dirLeftWithoutRunner P = false := by
  simp [dirLeftWithoutRunner, hP]

theorem no_runner_witness : dirLeftWithoutRunner { goodParams with socketDirRemovedIfNoRunner := false } = true := by decide

/-- **The knock loop ends with its listener**, however late its goroutine gets to run — in particular when the listener was
closed at once.  (This is what the release condition of the go-site `grpcKnocks` above takes for granted.) -/
theorem knock_loop_ends_with_listener (K : GrpcMux.KnockLoopParams) (hK : K.Good) (closedBeforeLoopRan : Bool) :
    GrpcMux.knockLoopEnds K closedBeforeLoopRan = true := by
  simp [GrpcMux.knockLoopEnds, hK.usesAcceptSlot]

/-- Witness: looking the slot up again by id, a loop whose listener was closed before it ran never ends -/
theorem second_lookup_witness : GrpcMux.knockLoopEnds ⟨false, true⟩ true = false := by decide

end GoPlugin.Props.C18
