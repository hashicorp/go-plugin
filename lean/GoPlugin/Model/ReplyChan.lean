/-
`ReplyChan` — the request / reply-channel protocol between `Send` and the stream
goroutine of the gRPC broker's streamer (C20: "no call panics, no channel is closed
twice … including shutdown racing with in-flight operations").

grpc_broker.go, the same shape on both sides (`gRPCBrokerServer` in the plugin,
`gRPCBrokerClientImpl` in the host):

    func (s *T) Send(i *ConnInfo) error {           go func() {            // started by StartStream
        ch := make(chan error)                          for { select {
        defer close(ch)                                 case <-doneCh: return
        select {                                        case <-s.quit: return
        case <-s.quit:                                  case se := <-s.send:
            return errors.New("broker closed")              err := stream.Send(se.i)
        case s.send <- &sendErr{i: i, ch: ch}:              se.ch <- err
        }                                               }}
        return <-ch                                 }()
    }

`ch` is a per-call, unbuffered channel that is shared with exactly one other
goroutine — the stream goroutine that took the request — and that `Send` closes when
it returns.  A send on a closed channel panics, in a library goroutine: the whole
process (host or plugin) dies.  What keeps `se.ch <- err` from hitting a closed
channel is an ORDER, not a lock: once the request has been handed over, `Send`
returns (and thereby closes `ch`) only by way of the receive that takes the reply.
That order, and that the stream goroutine sends one reply per request, are the
structural facts of this model (`Params`, tie T-A, extract/replychan.go).

The model: any number of `Send` calls (indexed by `Nat`, each with its own reply
channel), one stream goroutine, `Close` of the streamer (closes `quit`, `sync.Once`),
every interleaving.  `stream.Send` is the stretch between `take` and `reply`; its
result is irrelevant here.  The stream's context ending (`doneCh`) is, for this
protocol, the same as `quit` closing (StartStream defers `s.Close()`).

Core Lean only.
-/
namespace GoPlugin.ReplyChan

/-- Structural facts of one streamer type (`Send` + the goroutine in `StartStream`). -/
structure Params where
  /-- `Send`: after the request carrying the reply channel has been handed to the stream goroutine,
  the ONLY way `Send` returns is through a plain receive from the reply channel (no `select`
  alternative, no `return` between the hand-over and the receive) -/
  sendWaitsForReply : Bool
  /-- `Send` closes its reply channel when it returns (`defer close(ch)`) -/
  sendClosesReply : Bool
  /-- the stream goroutine's only use of the reply channel of a request it took is ONE send -/
  workerRepliesOnce : Bool
  deriving DecidableEq, Repr

def Params.Good (P : Params) : Prop := P.sendWaitsForReply = true ∧ P.workerRepliesOnce = true

instance (P : Params) : Decidable P.Good := by unfold Params.Good; exact inferInstance

/-- the code as it is: waits for the reply, closes afterwards, one reply per request -/
def goodParams : Params := ⟨true, true, true⟩

/-- where one `Send` call is -/
inductive Pc
  /-- not called (yet) -/
  | idle
  /-- in the first `select`: `<-s.quit` or `s.send <- &sendErr{i, ch}` -/
  | offering
  /-- the request is with the stream goroutine; `Send` is at the receive from `ch` -/
  | waiting
  | returned
  deriving DecidableEq, Repr

/-- the stream goroutine -/
inductive Worker
  /-- in its `select` -/
  | idle
  /-- took request `i`: inside `stream.Send`, then at `se.ch <- err` -/
  | holding (i : Nat)
  /-- (only without `workerRepliesOnce`) about to send on the reply channel of `i` once more -/
  | again (i : Nat)
  | exited
  deriving DecidableEq, Repr

def upd {α : Type} (f : Nat → α) (i : Nat) (v : α) : Nat → α :=
  fun j => if j = i then v else f j

structure State where
  pc : Nat → Pc
  /-- the reply channel of call `i` is closed -/
  closed : Nat → Bool
  /-- how often `close(ch)` ran for call `i` (Go panics at the second) -/
  closes : Nat → Nat
  /-- `quit` is closed -/
  quit : Bool
  worker : Worker
  /-- a send on a closed channel happened (`panic: send on closed channel`) -/
  panicked : Bool

def init : State := ⟨fun _ => .idle, fun _ => false, fun _ => 0, false, .idle, false⟩

inductive Event
  /-- `Send` number `i` is called: makes its reply channel and enters the first `select` -/
  | call (i : Nat)
  /-- `Send i` takes the `<-s.quit` arm and returns "broker closed" (its channel was never shared) -/
  | quitArm (i : Nat)
  /-- rendezvous on `s.send`: the stream goroutine takes the request of `Send i` -/
  | take (i : Nat)
  /-- the stream goroutine executes `se.ch <- err` -/
  | reply
  /-- `Send i` returns WITHOUT the reply because `quit` is closed — exists only in a tree without
  `sendWaitsForReply` -/
  | giveUp (i : Nat)
  /-- `streamer.Close()` (by `GRPCBroker.Close`, or `StartStream` returning) -/
  | close
  /-- the stream goroutine takes its `<-s.quit` arm -/
  | workerQuit
  deriving DecidableEq, Repr

/-- `Send i` returns: `pc`, and the deferred `close(ch)` if the tree has it -/
def returnSend (P : Params) (s : State) (i : Nat) : State :=
  { s with pc := upd s.pc i .returned,
           closed := upd s.closed i (s.closed i || P.sendClosesReply),
           closes := upd s.closes i (s.closes i + (if P.sendClosesReply then 1 else 0)) }

/-- the stream goroutine sends on the reply channel of `i`; `next` is where it goes afterwards.
Closed channel: panic.  Open and `Send i` at its receive: rendezvous, `Send i` returns.
Open and nobody receiving (unbuffered): blocked — not enabled. -/
def sendReply (P : Params) (s : State) (i : Nat) (next : Worker) : Option State :=
  if s.closed i then some { s with panicked := true, worker := .exited }
  else if s.pc i = .waiting then some { returnSend P s i with worker := next }
  else none

def step (P : Params) (s : State) : Event → Option State
  | .call i => if s.pc i = .idle then some { s with pc := upd s.pc i .offering } else none
  | .quitArm i => if s.pc i = .offering ∧ s.quit = true then some (returnSend P s i) else none
  | .take i =>
    if s.pc i = .offering ∧ s.worker = .idle then some { s with pc := upd s.pc i .waiting, worker := .holding i }
    else none
  | .reply =>
    match s.worker with
    | .holding i => sendReply P s i (if P.workerRepliesOnce then .idle else .again i)
    | .again i => sendReply P s i .idle
    | _ => none
  | .giveUp i =>
    if P.sendWaitsForReply = false ∧ s.pc i = .waiting ∧ s.quit = true then some (returnSend P s i) else none
  | .close => some { s with quit := true }
  | .workerQuit => if s.worker = .idle ∧ s.quit = true then some { s with worker := .exited } else none

def runFrom (P : Params) : State → List Event → Option State
  | s, [] => some s
  | s, e :: es =>
    match step P s e with
    | some s' => runFrom P s' es
    | none => none

/-- reached from the initial state by some sequence of enabled events: any number of `Send`s, any
interleaving with the stream goroutine and with `Close` -/
def Reachable (P : Params) (s : State) : Prop := ∃ es, runFrom P init es = some s

/-- the state after a concrete trace (for witnesses and the oracle) -/
def after (P : Params) (es : List Event) : Option State := runFrom P init es

end GoPlugin.ReplyChan
