import GoPlugin.Go.Bytes
/-
Theorems about the byte-level models of `Go/Bytes.lean` (core Lean only).

* `strings.Split` / `strings.Join`: splitting and joining undo each other.
* `strconv.Itoa` / `strconv.Atoi`: `itoa` prints decimal digits after at most one leading `-`,
  and `atoi (itoa i)` is `i` exactly on the int64 range.
* `strings.TrimSpace` is the identity on a byte string whose first and last bytes are ASCII
  (< 0x80) and not ASCII white space.  The multi-byte `unicode.IsSpace` runes (U+0085, U+00A0,
  U+1680, U+2000–U+200A, U+2028, U+2029, U+202F, U+205F, U+3000) start with a lead byte ≥ 0xC2
  and end in a continuation byte ≥ 0x80, so an ASCII byte can neither start nor end one.
-/
namespace GoPlugin.Go

theorem split_eq_cons (sep : UInt8) (s : Bytes) : ∃ g gs, split sep s = g :: gs := by
  -- every arm of `split` returns a cons
  fun_cases split sep s <;> exact ⟨_, _, rfl⟩

theorem join_cons_cons (sep c : UInt8) (g : Bytes) (gs : List Bytes) :
    join sep ((c :: g) :: gs) = c :: join sep (g :: gs) := by
  cases gs <;> rfl

theorem join_split (sep : UInt8) (s : Bytes) : join sep (split sep s) = s := by
  induction s with
  | nil => rfl
  | cons c cs ih =>
    obtain ⟨g, gs, hs⟩ := split_eq_cons sep cs
    rw [hs] at ih
    simp only [split, hs]
    split
    · next h => rw [h, ← ih]; rfl
    · rw [join_cons_cons, ih]

theorem split_no_sep (sep : UInt8) (s : Bytes) : ∀ f ∈ split sep s, sep ∉ f := by
  induction s with
  | nil => simp [split]
  | cons c cs ih =>
    obtain ⟨g, gs, hs⟩ := split_eq_cons sep cs
    rw [hs] at ih
    simp only [split, hs]
    split
    · exact List.forall_mem_cons.2 ⟨List.not_mem_nil, ih⟩
    · next h =>
      obtain ⟨hg, hgs⟩ := List.forall_mem_cons.1 ih
      exact List.forall_mem_cons.2 ⟨fun hm => (List.mem_cons.1 hm).elim (fun e => h e.symm) hg, hgs⟩

theorem split_of_not_mem (sep : UInt8) (s : Bytes) (h : sep ∉ s) : split sep s = [s] := by
  induction s with
  | nil => rfl
  | cons c cs ih =>
    simp only [split, if_neg (List.ne_of_not_mem_cons h).symm, ih (List.not_mem_of_not_mem_cons h)]

theorem split_append_sep (sep : UInt8) (a b : Bytes) (h : sep ∉ a) :
    split sep (a ++ sep :: b) = a :: split sep b := by
  induction a with
  | nil => simp [split]
  | cons c cs ih =>
    simp only [List.cons_append, split, if_neg (List.ne_of_not_mem_cons h).symm, ih (List.not_mem_of_not_mem_cons h)]

theorem split_join (sep : UInt8) (fs : List Bytes) (hne : fs ≠ [])
    (h : ∀ f ∈ fs, sep ∉ f) : split sep (join sep fs) = fs := by
  induction fs with
  | nil => exact absurd rfl hne
  | cons f rest ih =>
    cases rest with
    | nil => simpa [join] using split_of_not_mem sep f (h f (by simp))
    | cons g rest' =>
      have hf : sep ∉ f := h f (by simp)
      have ih' := ih (by simp) (fun x hx => h x (List.mem_cons_of_mem _ hx))
      simp only [join]
      rw [split_append_sep sep f _ hf, ih']

theorem join_concat (sep : UInt8) (fs : List Bytes) (hne : fs ≠ []) (t : Bytes) :
    join sep (fs ++ [t]) = join sep fs ++ sep :: t := by
  induction fs with
  | nil => exact absurd rfl hne
  | cons f rest ih =>
    cases rest with
    | nil => simp [join]
    | cons g rest' =>
      have := ih (by simp)
      simp only [List.cons_append, join] at this ⊢
      rw [this, List.append_assoc]
      rfl

theorem digit_char : ∀ r, r < 10 →
    isDigit (UInt8.ofNat (48 + r)) = true ∧ (UInt8.ofNat (48 + r)).toNat - 48 = r := by decide

theorem digitsVal_append (xs ys : Bytes) (a : Nat) :
    digitsVal (xs ++ ys) a = (digitsVal xs a).bind (digitsVal ys) := by
  induction xs generalizing a with
  | nil => simp [digitsVal]
  | cons c cs ih =>
    simp only [List.cons_append, digitsVal]
    split
    · exact ih _
    · simp

theorem natDigitsAux_spec (fuel n : Nat) (acc : Bytes) (h : n < fuel) :
    ∃ ds, natDigitsAux fuel n acc = ds ++ acc ∧ ds ≠ [] ∧ (∀ c ∈ ds, isDigit c = true) ∧
      ∀ a, digitsVal ds a = some (a * 10 ^ ds.length + n) := by
  induction fuel generalizing n acc with
  | zero => omega
  | succ fuel ih =>
    obtain ⟨hDigit, hValue⟩ := digit_char (n % 10) (Nat.mod_lt _ (by omega))
    simp only [natDigitsAux]
    by_cases h0 : n / 10 = 0
    · simp only [h0, if_true]
      refine ⟨[UInt8.ofNat (48 + n % 10)], by simp, by simp, by simpa using hDigit, ?_⟩
      intro a
      have hn : n % 10 = n := by omega
      simp only [digitsVal, hDigit, if_true, hValue, List.length_singleton, Nat.pow_one]
      rw [hn]
    · simp only [h0, if_false]
      obtain ⟨ds, hds, hne, hdig, hval⟩ := ih (n / 10) (UInt8.ofNat (48 + n % 10) :: acc) (by omega)
      refine ⟨ds ++ [UInt8.ofNat (48 + n % 10)], by rw [hds, List.append_assoc]; rfl, by simp, ?_, ?_⟩
      · intro c hc
        simp only [List.mem_append, List.mem_singleton] at hc
        rcases hc with hc | rfl
        · exact hdig c hc
        · exact hDigit
      · intro a
        rw [digitsVal_append, hval a]
        simp only [Option.bind_some, digitsVal, hDigit, if_true, hValue, List.length_append,
          List.length_singleton, Nat.pow_succ]
        congr 1
        have := Nat.div_add_mod n 10
        rw [Nat.add_mul, Nat.mul_assoc]
        omega

theorem natDigits_spec (n : Nat) :
    natDigits n ≠ [] ∧ (∀ c ∈ natDigits n, isDigit c = true) ∧ digitsVal (natDigits n) 0 = some n := by
  obtain ⟨ds, hds, hne, hdig, hval⟩ := natDigitsAux_spec (n + 1) n [] (by omega)
  simp only [List.append_nil] at hds
  unfold natDigits
  rw [hds]
  exact ⟨hne, hdig, by simpa using hval 0⟩

theorem itoa_bytes (i : Int) : ∀ c ∈ itoa i, isDigit c = true ∨ c = 45 := by
  intro c hc
  cases i with
  | ofNat n =>
    obtain ⟨-, hDigits, -⟩ := natDigits_spec n
    exact Or.inl (hDigits c hc)
  | negSucc n =>
    rcases List.mem_cons.1 hc with rfl | hc
    · exact Or.inr rfl
    · obtain ⟨-, hDigits, -⟩ := natDigits_spec (n + 1)
      exact Or.inl (hDigits c hc)

theorem not_mem_itoa (i : Int) (b : UInt8) (hb : isDigit b = false) (hm : b ≠ 45) : b ∉ itoa i := by
  intro h
  rcases itoa_bytes i b h with h | h
  · rw [hb] at h; exact Bool.noConfusion h
  · exact hm h

theorem itoa_ne_nil (i : Int) : itoa i ≠ [] := by
  cases i with
  | ofNat n =>
    obtain ⟨hne, -, -⟩ := natDigits_spec n
    exact hne
  | negSucc n => exact List.cons_ne_nil _ _

theorem atoi_digits (ds : Bytes) (hne : ds ≠ []) (hdig : ∀ c ∈ ds, isDigit c = true) :
    atoi ds = match digitsVal ds 0 with
      | some n => if n < 2^63 then some (Int.ofNat n) else none
      | none => none := by
  match ds, hne with
  | c :: cs, _ =>
    have hc : isDigit c = true := hdig c (by simp)
    -- a digit is neither of the two signs, so `atoi` takes its last arm
    unfold atoi
    split
    · next heq => cases heq
    · next heq => cases heq; exact absurd hc (by decide)
    · next heq => cases heq; exact absurd hc (by decide)
    · rfl

/-- `strconv.Atoi(strconv.Itoa(n))` is `n` inside the int64 range and an error outside. -/
theorem atoi_itoa_eq (i : Int) :
    atoi (itoa i) = if -(2:Int)^63 ≤ i ∧ i < (2:Int)^63 then some i else none := by
  cases i with
  | ofNat n =>
    obtain ⟨hne, hdig, hval⟩ := natDigits_spec n
    have hc : (-(2:Int)^63 ≤ Int.ofNat n ∧ Int.ofNat n < (2:Int)^63) ↔ n < 2^63 := by
      simp only [Int.ofNat_eq_natCast]; omega
    simp only [itoa]
    rw [atoi_digits _ hne hdig, hval]
    simp only [hc]
  | negSucc n =>
    obtain ⟨hne, hdig, hval⟩ := natDigits_spec (n + 1)
    have hc : (-(2:Int)^63 ≤ Int.negSucc n ∧ Int.negSucc n < (2:Int)^63) ↔ n + 1 ≤ 2^63 := by omega
    simp only [itoa, atoi, hne, if_false, hval, hc]
    rfl

theorem atoi_itoa (i : Int) (hlo : -(2:Int)^63 ≤ i) (hhi : i < (2:Int)^63) : atoi (itoa i) = some i := by
  rw [atoi_itoa_eq, if_pos ⟨hlo, hhi⟩]

theorem atoi_itoa_some (i x : Int) (h : atoi (itoa i) = some x) : x = i := by
  rw [atoi_itoa_eq] at h
  split at h
  · exact (Option.some.inj h).symm
  · exact absurd h (by simp)

theorem map_atoi_map_itoa (ks : List Int) (hr : ∀ k ∈ ks, -(2:Int)^63 ≤ k ∧ k < (2:Int)^63) :
    (ks.map itoa).map atoi = ks.map some := by
  rw [List.map_map]
  exact List.map_congr_left fun k hk => atoi_itoa k (hr k hk).1 (hr k hk).2

theorem filterMap_atoi_map_itoa (ks : List Int) (hr : ∀ k ∈ ks, -(2:Int)^63 ≤ k ∧ k < (2:Int)^63) :
    (ks.map itoa).filterMap atoi = ks := by
  have h := congrArg (List.filterMap id) (map_atoi_map_itoa ks hr)
  simpa [List.filterMap_map] using h

theorem isAsciiSpace_of_gt {c : UInt8} (h : 32 < c.toNat) : isAsciiSpace c = false := by
  have ne : ∀ k : UInt8, k.toNat ≤ 32 → ¬ c = k := fun k hk e => by subst e; omega
  simp [isAsciiSpace, ne 9 (by decide), ne 10 (by decide), ne 11 (by decide), ne 12 (by decide),
    ne 13 (by decide), ne 32 (by decide)]

private theorem ne_of_ascii {c : UInt8} (hlt : c < 128) (k : UInt8) (hk : 128 ≤ k.toNat) : c ≠ k := by
  have hn : c.toNat < 128 := UInt8.lt_iff_toNat_lt.1 hlt
  intro h; subst h; omega

theorem trimLeft_of_head_ascii (c : UInt8) (rest : Bytes) (hlt : c < 128) (hsp : isAsciiSpace c = false) :
    trimLeft (c :: rest) = c :: rest := by
  have ne := ne_of_ascii hlt
  unfold trimLeft
  simp only [hsp, Bool.false_eq_true, if_false]
  split
  · exact absurd rfl (ne 0xC2 (by decide))
  · exact absurd rfl (ne 0xE1 (by decide))
  · exact absurd rfl (ne 0xE2 (by decide))
  · exact absurd rfl (ne 0xE3 (by decide))
  · rfl

/-- An ASCII, non-space last byte stops the right trim at once (the argument is the reversed string). -/
theorem trimLeftRev_of_head_ascii (c : UInt8) (rest : Bytes) (hlt : c < 128) (hsp : isAsciiSpace c = false) :
    trimLeftRev (c :: rest) = c :: rest := by
  have ne := ne_of_ascii hlt
  have nle : (128 ≤ c) = False := eq_false (UInt8.not_le.2 hlt)
  have e85 := ne 0x85 (by decide)
  have eA0 := ne 0xA0 (by decide)
  have e80 := ne 0x80 (by decide)
  have eA8 := ne 0xA8 (by decide)
  have eA9 := ne 0xA9 (by decide)
  have eAF := ne 0xAF (by decide)
  have e9F := ne 0x9F (by decide)
  unfold trimLeftRev
  simp only [hsp]
  match rest with
  | [] => simp
  | [d] => simp [e85, eA0]
  | d :: e :: rest'' => simp [e85, eA0, e80, eA8, eA9, eAF, e9F, nle]

theorem trimSpace_eq_self (s : Bytes) (c z : UInt8) (hc : s.head? = some c) (hz : s.getLast? = some z)
    (hclt : c < 128) (hcsp : isAsciiSpace c = false) (hzlt : z < 128) (hzsp : isAsciiSpace z = false) :
    trimSpace s = s := by
  obtain ⟨cs, rfl⟩ := List.head?_eq_some_iff.1 hc
  unfold trimSpace
  rw [trimLeft_of_head_ascii c cs hclt hcsp]
  obtain ⟨ys, hys⟩ := List.getLast?_eq_some_iff.1 hz
  have hrev : (c :: cs).reverse = z :: ys.reverse := by
    rw [hys]; simp
  rw [hrev, trimLeftRev_of_head_ascii z _ hzlt hzsp, ← hrev, List.reverse_reverse]

end GoPlugin.Go
