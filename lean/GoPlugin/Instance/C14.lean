import GoPlugin.Props.C14
import GoPlugin.Generated.Facts
/- C14 at the facts extracted from the current source: they are good (`facts_good`, evaluated on every run), and the
matrix holds for every good set of facts. -/
namespace GoPlugin.Instance.C14
open Interop Props.C14

theorem facts_good : Facts.interop.Good ∧ Facts.handshake.Good := by decide

theorem holds_interop_matrix : ∀ hc ∈ allHost, ∀ pc ∈ allPlug, compose Facts.interop Facts.handshake hc pc = expected hc pc :=
  fun hc _ pc _ => interop_good _ _ facts_good.1 facts_good.2 hc pc

theorem holds_never_broken (hc : HostC) (pc : PlugC) : compose Facts.interop Facts.handshake hc pc ≠ .broken :=
  interop_good _ _ facts_good.1 facts_good.2 hc pc ▸ expected_ne_broken hc pc

theorem holds_legacy_matrix : ∀ hc ∈ allHost, ∀ s ∈ [PSec.none, .static], composeLegacy Facts.interop Facts.handshake hc s = expected hc (legacyPlug s) :=
  fun hc _ s _ => legacy_good _ _ facts_good.1 facts_good.2 hc s

/-- at the current source: never a silently downgraded connection, whatever the plugin answers -/
theorem holds_never_downgraded (hc : HostC) (pc : PlugC) : compose Facts.interop Facts.handshake hc pc ≠ .downgraded :=
  never_downgraded_good Facts.interop Facts.handshake facts_good.1 hc pc

/-- at the current source: an AutoMTLS host that completes a call talks to a plugin serving AutoMTLS -/
theorem holds_automtls_never_plaintext (hc : HostC) (pc : PlugC) (ha : hc.sec = .auto) (hl : hc.launch ≠ .reattach)
    (h : compose Facts.interop Facts.handshake hc pc = .works) : plugTls hc pc = .auto ∧ pc.noAuto = false :=
  automtls_never_plaintext Facts.interop Facts.handshake facts_good.1 hc pc ha hl h

end GoPlugin.Instance.C14
