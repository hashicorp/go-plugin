import GoPlugin.Model.TlsPolicy
/-
C12 — With AutoMTLS every plugin connection is mutually authenticated.

Quantifiers: every structural-fact record `P`
satisfying `Params.Good`; every world `w` (any host certificate, any announced
certificate, ANY system root pool); every connection path (`Path`: net/rpc
main, gRPC main, gRPC main over yamux, brokered listeners on either side, with
and without multiplexing); every peer `p` (plaintext or TLS, any TLS version,
any certificate chain of any length, any set of private keys).

Assumptions, all explicit in the statements:
* SYMBOLIC CRYPTO: crypto/tls + crypto/x509 decide as `serverAccepts` /
  `clientAccepts` say (possession of the leaf key is proved in the handshake,
  a chain verifies only through issuer-key links to a pool certificate);
* `HonestIssuer k kc p`: every certificate in `p`'s chain that names key `k` as
  issuer is `kc` itself.  `generateCert` sets `IsCA: true`, so this is an
  assumption about the two honest parties — they sign nothing but their own
  self-signed certificate — not something the code enforces
  (`honest_issuer_needed_witness` shows it cannot be dropped).
-/
namespace GoPlugin.TlsPolicy

namespace TlsFacts.Good
variable {f : TlsFacts} (h : f.Good)
include h
private theorem clientAuth : f.clientAuth = .requireAndVerifyClientCert := h.1
private theorem clientCAs : f.clientCAs = .peerCert := h.2.1
private theorem rootCAs : f.rootCAs = .peerCert := h.2.2.1
private theorem hasOwnCert : f.hasOwnCert = true := h.2.2.2.1
private theorem minVersion_ge : 771 ≤ f.minVersion := h.2.2.2.2.1
private theorem minVersion_le : f.minVersion ≤ 772 := h.2.2.2.2.2.1
private theorem insecureSkipVerify : f.insecureSkipVerify = false := h.2.2.2.2.2.2.1
private theorem serverNameIsCertName : f.serverNameIsCertName = true := h.2.2.2.2.2.2.2
end TlsFacts.Good

namespace Params.Good
variable {P : Params} (h : P.Good)
include h
private theorem serverTls : P.serverTls.Good := h.1
private theorem clientTls : P.clientTls.Good := h.2.1
private theorem rpcListenerWrapped : P.rpcListenerWrapped = true := h.2.2.1
private theorem rpcDialWrapped : P.rpcDialWrapped = true := h.2.2.2.1
private theorem grpcServerCreds : P.grpcServerCreds = true := h.2.2.2.2.1
private theorem grpcDialCreds : P.grpcDialCreds = true := h.2.2.2.2.2.1
private theorem brokerServeCreds : P.brokerServeCreds = true := h.2.2.2.2.2.2.1
private theorem brokerDialCreds : P.brokerDialCreds = true := h.2.2.2.2.2.2.2.1
private theorem brokerMuxDialCreds : P.brokerMuxDialCreds = true := h.2.2.2.2.2.2.2.2.1
private theorem pluginBrokerTls : P.pluginBrokerTls = true := h.2.2.2.2.2.2.2.2.2.1
private theorem hostBrokerTls : P.hostBrokerTls = true := h.2.2.2.2.2.2.2.2.2.2
end Params.Good

end GoPlugin.TlsPolicy

namespace GoPlugin.Props.C12
open TlsPolicy

private theorem trusted_pinned {root c : Cert} (h : trustedBy [root] c = true)
    (hon : c.issuer = root.subject → c = root) : c = root := by
  have : c = root ∨ root.subject = c.issuer := by simpa [trustedBy] using h
  exact this.elim id fun hi => hon hi.symm

/-- Against the pool `[root]`, with nobody but `root` itself signed by `root`'s key, the only leaf that verifies is `root`:
a chain that reaches `root` through an issuer link would contain a second certificate signed by `root`'s key. -/
private theorem verify_pinned (root : Cert) : ∀ chain : List Cert,
    verifyChain [root] chain = true → (∀ c ∈ chain, c.issuer = root.subject → c = root) →
    chain.head? = some root
  | [], h, _ => by simp [verifyChain] at h
  | [c], h, hon => by rw [trusted_pinned h (hon c (by simp))]; rfl
  | c :: d :: rest, h, hon => by
    simp only [verifyChain, Bool.or_eq_true, Bool.and_eq_true, beq_iff_eq] at h
    have hc : c = root := by
      rcases h with h | ⟨hl, hv⟩
      · exact trusted_pinned h (hon c (by simp))
      · have ih := verify_pinned root (d :: rest) hv fun x hx => hon x (List.mem_cons_of_mem _ hx)
        exact hon c (by simp) (by rw [hl, Option.some.inj ih])
    rw [hc]; rfl

private theorem pinned_leaf {root : Cert} {p : Peer} (hv : verifyChain [root] p.chain = true)
    (hon : HonestIssuer root.subject root p) (hp : possesses p = true) :
    p.chain.head? = some root ∧ root.subject ∈ p.holds := by
  have hh := verify_pinned root p.chain hv hon
  unfold possesses at hp
  cases hc : p.chain with
  | nil => simp [hc] at hh
  | cons c rest =>
    obtain rfl : c = root := by simpa [hc] using hh
    exact ⟨rfl, by simpa [hc] using hp⟩

private theorem server_pinned (sys : List Cert) (cfg : TlsCfg) (root : Cert) (p : Peer)
    (hca : cfg.clientAuth = .requireAndVerifyClientCert) (hpool : cfg.clientCAs = some [root])
    (h : serverAccepts sys cfg p = true) :
    p.speaksTls = true ∧ cfg.minVersion ≤ p.version ∧ possesses p = true ∧ verifyChain [root] p.chain = true := by
  unfold serverAccepts at h
  rw [hca, hpool] at h
  simp only [poolOr, Bool.and_eq_true, decide_eq_true_eq] at h
  obtain ⟨⟨⟨hTls, hVersion⟩, hPossesses⟩, -, hVerified⟩ := h
  exact ⟨hTls, hVersion, hPossesses, hVerified⟩

private theorem client_pinned (sys : List Cert) (cfg : TlsCfg) (root : Cert) (p : Peer)
    (hskip : cfg.insecureSkipVerify = false) (hpool : cfg.rootCAs = some [root])
    (h : clientAccepts sys cfg p = true) :
    p.speaksTls = true ∧ cfg.minVersion ≤ p.version ∧ possesses p = true ∧ verifyChain [root] p.chain = true := by
  unfold clientAccepts at h
  rw [hskip, hpool] at h
  simp only [poolOr, Bool.and_eq_true, decide_eq_true_eq, Bool.false_or] at h
  obtain ⟨⟨⟨⟨hTls, hVersion⟩, -⟩, hPossesses⟩, hVerified, -⟩ := h
  exact ⟨hTls, hVersion, hPossesses, hVerified⟩

private theorem good_listen (P : Params) (hP : P.Good) (path : Path) : listenWrapped P path = true := by
  cases path <;>
    simp [listenWrapped, hP.rpcListenerWrapped, hP.grpcServerCreds, hP.brokerServeCreds, hP.pluginBrokerTls, hP.hostBrokerTls]

private theorem good_dial (P : Params) (hP : P.Good) (path : Path) : dialWrapped P path = true := by
  cases path <;>
    simp [dialWrapped, hP.rpcDialWrapped, hP.grpcDialCreds, hP.brokerDialCreds, hP.brokerMuxDialCreds, hP.pluginBrokerTls,
      hP.hostBrokerTls]

/-- What an accepting end whose pools are pinned to `root` has established about the peer. -/
structure AuthenticatedAs (root : Cert) (p : Peer) : Prop where
  speaksTls : p.speaksTls = true
  version : 771 ≤ p.version
  leaf : p.chain.head? = some root
  holdsKey : root.subject ∈ p.holds

private theorem accepted_by (f : TlsFacts) (hf : f.Good) (sys : List Cert) (root : Cert) (p : Peer)
    (hon : HonestIssuer root.subject root p)
    (h : serverAccepts sys (f.cfg root) p = true ∨ clientAccepts sys (f.cfg root) p = true) :
    AuthenticatedAs root p := by
  have ⟨hTls, hVersion, hPossesses, hVerified⟩ := h.elim
    (server_pinned sys _ root p (by simp [TlsFacts.cfg, hf.clientAuth]) (by simp [TlsFacts.cfg, hf.clientCAs, poolOf]))
    (client_pinned sys _ root p (by simp [TlsFacts.cfg, hf.insecureSkipVerify]) (by simp [TlsFacts.cfg, hf.rootCAs, poolOf]))
  have ⟨hLeaf, hKey⟩ := pinned_leaf hVerified hon hPossesses
  exact ⟨hTls, Nat.le_trans hf.minVersion_ge hVersion, hLeaf, hKey⟩

private theorem serves_good (P : Params) (hP : P.Good) (w : World) (path : Path) (p : Peer) :
    serves P w path p = serverAccepts w.sys (if path.pluginListens then pluginCfg P w else hostCfg P w) p := by
  simp [serves, listenerServes, good_listen P hP path]

private theorem talksTo_good (P : Params) (hP : P.Good) (w : World) (path : Path) (p : Peer) :
    talksTo P w path p = clientAccepts w.sys (if path.pluginListens then hostCfg P w else pluginCfg P w) p := by
  simp [talksTo, dialTalksTo, good_dial P hP path]

/-- **Whichever end of whichever path the PLUGIN is** (listener where it listens, dialler where the host
listens): a peer it accepts speaks TLS ≥ 1.2, presented the host's certificate and holds the host's key. -/
theorem plugin_end_authenticates (P : Params) (hP : P.Good) (w : World) (path : Path) (p : Peer)
    (hon : HonestIssuer w.hostKey w.hostCert p)
    (h : (path.pluginListens = true ∧ serves P w path p = true) ∨
         (path.pluginListens = false ∧ talksTo P w path p = true)) :
    AuthenticatedAs w.hostCert p := by
  refine accepted_by P.serverTls hP.serverTls w.sys w.hostCert p hon ?_
  rcases h with ⟨hl, h⟩ | ⟨hl, h⟩
  · rw [serves_good P hP, hl] at h; exact .inl h
  · rw [talksTo_good P hP, hl] at h; exact .inr h

/-- **Whichever end the HOST is**: a peer it accepts presented the announced certificate and holds its key. -/
theorem host_end_authenticates (P : Params) (hP : P.Good) (w : World) (path : Path) (p : Peer)
    (hon : HonestIssuer w.pluginKey w.announced p)
    (h : (path.pluginListens = true ∧ talksTo P w path p = true) ∨
         (path.pluginListens = false ∧ serves P w path p = true)) :
    AuthenticatedAs w.announced p := by
  refine accepted_by P.clientTls hP.clientTls w.sys w.announced p hon ?_
  rcases h with ⟨hl, h⟩ | ⟨hl, h⟩
  · rw [talksTo_good P hP, hl] at h; exact .inr h
  · rw [serves_good P hP, hl] at h; exact .inl h

/-- **Accepted anywhere, in either role ⇒ authenticated as one of the two parties.**  Every refusal
below is the contrapositive of this for a peer that visibly fails one of the conjuncts. -/
theorem accepted_authenticated (P : Params) (hP : P.Good) (w : World) (path : Path) (p : Peer)
    (hh : HonestIssuer w.hostKey w.hostCert p) (hp : HonestIssuer w.pluginKey w.announced p)
    (h : serves P w path p = true ∨ talksTo P w path p = true) :
    AuthenticatedAs w.hostCert p ∨ AuthenticatedAs w.announced p := by
  cases hl : path.pluginListens <;> rcases h with h | h
  · exact .inr (host_end_authenticates P hP w path p hp (.inr ⟨hl, h⟩))
  · exact .inl (plugin_end_authenticates P hP w path p hh (.inr ⟨hl, h⟩))
  · exact .inl (plugin_end_authenticates P hP w path p hh (.inl ⟨hl, h⟩))
  · exact .inr (host_end_authenticates P hP w path p hp (.inl ⟨hl, h⟩))

theorem refused_of_not_authenticated (P : Params) (hP : P.Good) (w : World) (path : Path) (p : Peer)
    (hh : HonestIssuer w.hostKey w.hostCert p) (hp : HonestIssuer w.pluginKey w.announced p)
    (nh : ¬ AuthenticatedAs w.hostCert p) (np : ¬ AuthenticatedAs w.announced p) :
    serves P w path p = false ∧ talksTo P w path p = false :=
  ⟨Bool.eq_false_iff.2 fun h => (accepted_authenticated P hP w path p hh hp (.inl h)).elim nh np,
   Bool.eq_false_iff.2 fun h => (accepted_authenticated P hP w path p hh hp (.inr h)).elim nh np⟩

/-- **The plugin serves only the host that launched it.**  On every path whose
listening end is in the plugin (net/rpc main, gRPC main with and without
multiplexing, plugin-side brokered servers), a peer that gets RPCs served
presented the host's certificate and holds the host's private key. -/
theorem only_host_served (P : Params) (hP : P.Good) (w : World) (path : Path) (p : Peer)
    (hpath : path.pluginListens = true) (hon : HonestIssuer w.hostKey w.hostCert p)
    (h : serves P w path p = true) :
    p.chain.head? = some w.hostCert ∧ w.hostKey ∈ p.holds :=
  have a := plugin_end_authenticates P hP w path p hon (.inl ⟨hpath, h⟩)
  ⟨a.leaf, a.holdsKey⟩

/-- … and the plugin, when IT dials (host-side brokered servers), sends RPCs
only to a holder of the host's key. -/
theorem plugin_talks_only_to_host (P : Params) (hP : P.Good) (w : World) (path : Path) (p : Peer)
    (hpath : path.pluginListens = false) (hon : HonestIssuer w.hostKey w.hostCert p)
    (h : talksTo P w path p = true) :
    p.chain.head? = some w.hostCert ∧ w.hostKey ∈ p.holds :=
  have a := plugin_end_authenticates P hP w path p hon (.inr ⟨hpath, h⟩)
  ⟨a.leaf, a.holdsKey⟩

/-- **The host talks only to the plugin whose certificate came back in the
handshake.**  Wherever the host is the dialling end (every path the plugin
listens on) a peer it sends RPCs to, and wherever the host is the listening
end (host-side brokered servers) a peer it serves, presented the ANNOUNCED
certificate and holds its private key. -/
theorem only_plugin_trusted (P : Params) (hP : P.Good) (w : World) (path : Path) (p : Peer)
    (hon : HonestIssuer w.pluginKey w.announced p)
    (h : (path.pluginListens = true ∧ talksTo P w path p = true) ∨
         (path.pluginListens = false ∧ serves P w path p = true)) :
    p.chain.head? = some w.announced ∧ w.pluginKey ∈ p.holds :=
  have a := host_end_authenticates P hP w path p hon h
  ⟨a.leaf, a.holdsKey⟩

/-- **No path serves or issues RPCs without passing one of these checks.**
Structurally: both ends of every path carry the AutoMTLS configuration; and
semantically: any peer that is served, or talked to, on any path speaks TLS
(≥ 1.2), presented a certificate, and that certificate is the pinned one. -/
theorem every_path_wrapped (P : Params) (hP : P.Good) (path : Path) :
    listenWrapped P path = true ∧ dialWrapped P path = true ∧
    ∀ (w : World) (p : Peer), HonestIssuer w.hostKey w.hostCert p → HonestIssuer w.pluginKey w.announced p →
      serves P w path p = true ∨ talksTo P w path p = true →
      p.speaksTls = true ∧ 771 ≤ p.version ∧
      (p.chain.head? = some w.hostCert ∨ p.chain.head? = some w.announced) := by
  refine ⟨good_listen P hP path, good_dial P hP path, fun w p hh hp h => ?_⟩
  rcases accepted_authenticated P hP w path p hh hp h with a | a
  · exact ⟨a.speaksTls, a.version, .inl a.leaf⟩
  · exact ⟨a.speaksTls, a.version, .inr a.leaf⟩

/-- **An intruder is refused on every path, in both roles.**  A peer holding
neither the host's nor the plugin's private key is neither served nor talked to
anywhere — whatever it presents, whatever the system roots are. -/
theorem intruder_refused (P : Params) (hP : P.Good) (w : World) (path : Path) (p : Peer)
    (hh : HonestIssuer w.hostKey w.hostCert p) (hp : HonestIssuer w.pluginKey w.announced p)
    (nh : w.hostKey ∉ p.holds) (np : w.pluginKey ∉ p.holds) :
    serves P w path p = false ∧ talksTo P w path p = false :=
  refused_of_not_authenticated P hP w path p hh hp (fun a => nh a.holdsKey) (fun a => np a.holdsKey)

/-! ### The intruder classes named by the property -/

theorem refused_of_empty_chain (P : Params) (hP : P.Good) (w : World) (path : Path) (p : Peer) (hc : p.chain = []) :
    serves P w path p = false ∧ talksTo P w path p = false :=
  have hon : ∀ k kc, HonestIssuer k kc p := fun k kc c hm => by simp [hc] at hm
  have na : ∀ root, ¬ AuthenticatedAs root p := fun root a => by have := a.leaf; simp [hc] at this
  refused_of_not_authenticated P hP w path p (hon _ _) (hon _ _) (na _) (na _)

/-- plaintext (raw yamux / `grpc.WithInsecure`), whatever keys it holds besides the two -/
theorem plaintext_refused (P : Params) (hP : P.Good) (w : World) (path : Path) (holds : List Key) :
    serves P w path (plaintextPeer holds) = false ∧ talksTo P w path (plaintextPeer holds) = false :=
  refused_of_empty_chain P hP w path _ rfl

/-- TLS without a certificate -/
theorem no_cert_refused (P : Params) (hP : P.Good) (w : World) (path : Path) (holds : List Key) :
    serves P w path (noCertPeer holds) = false ∧ talksTo P w path (noCertPeer holds) = false :=
  refused_of_empty_chain P hP w path _ rfl

private theorem single_cert_refused (P : Params) (hP : P.Good) (w : World) (path : Path) (k ca : Key) (n : Nat)
    (nh : k ≠ w.hostKey) (np : k ≠ w.pluginKey) (cah : ca ≠ w.hostKey) (cap : ca ≠ w.pluginKey) :
    serves P w path ⟨true, tls13, [⟨k, ca, n⟩], [k]⟩ = false ∧ talksTo P w path ⟨true, tls13, [⟨k, ca, n⟩], [k]⟩ = false :=
  intruder_refused P hP w path _ (by simp [HonestIssuer, cah]) (by simp [HonestIssuer, cap])
    (by simp [Ne.symm nh]) (by simp [Ne.symm np])

/-- TLS with a fresh self-signed certificate on another key — in particular one
with exactly the names of the genuine certificates (`n = certName`: CN=localhost, O=HashiCorp). -/
theorem self_signed_refused (P : Params) (hP : P.Good) (w : World) (path : Path) (k : Key) (n : Nat)
    (nh : k ≠ w.hostKey) (np : k ≠ w.pluginKey) :
    serves P w path (selfSignedPeer k n) = false ∧ talksTo P w path (selfSignedPeer k n) = false :=
  single_cert_refused P hP w path k k n nh np nh np

/-- same names, another key (the property's fourth class) -/
theorem same_names_other_key_refused (P : Params) (hP : P.Good) (w : World) (path : Path) (k : Key)
    (nh : k ≠ w.hostKey) (np : k ≠ w.pluginKey) :
    serves P w path (selfSignedPeer k certName) = false ∧ talksTo P w path (selfSignedPeer k certName) = false :=
  self_signed_refused P hP w path k certName nh np

/-- Both genuine certificates are self-signed on distinct keys (what two runs of `generateCert` produce). -/
def SelfSignedWorld (w : World) : Prop :=
  w.hostCert.issuer = w.hostKey ∧ w.announced.issuer = w.pluginKey ∧ w.hostKey ≠ w.pluginKey

/-- own self-signed leaf with a copy of a genuine certificate appended to the chain (chain stuffing) -/
theorem stapled_refused (P : Params) (hP : P.Good) (w : World) (hw : SelfSignedWorld w) (path : Path) (k : Key)
    (victim : Cert) (hv : victim = w.hostCert ∨ victim = w.announced)
    (nh : k ≠ w.hostKey) (np : k ≠ w.pluginKey) :
    serves P w path (stapledPeer k victim) = false ∧ talksTo P w path (stapledPeer k victim) = false := by
  obtain ⟨hHostSelf, hPluginSelf, hDistinct⟩ := hw
  -- the own leaf is issued by `k`; the stapled copy is genuine, or issued by the OTHER genuine key
  refine intruder_refused P hP w path _ ?_ ?_ (by simp [stapledPeer, Ne.symm nh]) (by simp [stapledPeer, Ne.symm np])
  · rcases hv with rfl | rfl <;> simp [stapledPeer, HonestIssuer, nh, hPluginSelf, Ne.symm hDistinct]
  · rcases hv with rfl | rfl <;> simp [stapledPeer, HonestIssuer, np, hHostSelf, hDistinct]

/-- certificate issued by some other CA — even one in the machine's system root pool -/
theorem ca_issued_refused (P : Params) (hP : P.Good) (w : World) (path : Path) (k ca : Key)
    (nh : k ≠ w.hostKey) (np : k ≠ w.pluginKey) (cah : ca ≠ w.hostKey) (cap : ca ≠ w.pluginKey) :
    serves P w path (caIssuedPeer k ca) = false ∧ talksTo P w path (caIssuedPeer k ca) = false :=
  single_cert_refused P hP w path k ca certName nh np cah cap

/-- **Impostor plugin.**  A process that announces certificate A in the handshake
line but can only sign with other keys is refused by the host on every path the
host dials, whatever certificate chain it serves with. -/
theorem impostor_refused (P : Params) (hP : P.Good) (w : World) (path : Path) (p : Peer)
    (hpath : path.pluginListens = true) (hon : HonestIssuer w.pluginKey w.announced p)
    (hk : w.announced.subject ∉ p.holds) : talksTo P w path p = false :=
  Bool.eq_false_iff.2 fun h => hk (host_end_authenticates P hP w path p hon (.inl ⟨hpath, h⟩)).holdsKey

/-- Protocol floor: nothing below TLS 1.2 is served or talked to, on any path. -/
theorem min_version_enforced (P : Params) (hP : P.Good) (w : World) (path : Path) (p : Peer)
    (hh : HonestIssuer w.hostKey w.hostCert p) (hp : HonestIssuer w.pluginKey w.announced p)
    (h : serves P w path p = true ∨ talksTo P w path p = true) : 771 ≤ p.version :=
  (accepted_authenticated P hP w path p hh hp h).elim (·.version) (·.version)

/-! ### The legitimate pair IS served (the theorems above are not vacuous) -/

/-- what the host presents, given whether its config carries `Certificates` -/
def hostAs (P : Params) (w : World) : Peer :=
  ⟨true, tls13, if P.clientTls.hasOwnCert then [w.hostCert] else [], [w.hostKey]⟩
/-- what a genuine plugin presents -/
def pluginAs (P : Params) (w : World) : Peer :=
  ⟨true, tls13, if P.serverTls.hasOwnCert then [w.announced] else [], [w.pluginKey]⟩

private theorem verify_self (c : Cert) : verifyChain [c] [c] = true := by simp [verifyChain, trustedBy]

private theorem srv_accepts_legit (f : TlsFacts) (hf : f.Good) (sys : List Cert) (root : Cert) :
    serverAccepts sys (f.cfg root) ⟨true, tls13, [root], [root.subject]⟩ = true := by
  simp [serverAccepts, TlsFacts.cfg, hf.clientAuth, hf.clientCAs, poolOf, poolOr, possesses, verify_self, tls13,
    hf.minVersion_le]

private theorem cli_accepts_legit (f : TlsFacts) (hf : f.Good) (sys : List Cert) (root : Cert)
    (hn : root.name = certName) :
    clientAccepts sys (f.cfg root) ⟨true, tls13, [root], [root.subject]⟩ = true := by
  simp [clientAccepts, TlsFacts.cfg, hf.rootCAs, hf.serverNameIsCertName, poolOf, poolOr, possesses, verify_self, tls13,
    hf.minVersion_le, hn]

/-- With the extracted facts good, on every path each legitimate end accepts the other. -/
theorem legit_pair_connects (P : Params) (hP : P.Good) (w : World) (hn : w.announced.name = certName)
    (hn' : w.hostCert.name = certName) (path : Path) :
    (path.pluginListens = true → serves P w path (hostAs P w) = true ∧ talksTo P w path (pluginAs P w) = true) ∧
    (path.pluginListens = false → serves P w path (pluginAs P w) = true ∧ talksTo P w path (hostAs P w) = true) := by
  -- with `Certificates` set, what each side presents is the model's legitimate peer
  have hH : hostAs P w = legitHost w := by simp [hostAs, legitHost, hP.clientTls.hasOwnCert]
  have hPl : pluginAs P w = legitPlugin w := by simp [pluginAs, legitPlugin, hP.serverTls.hasOwnCert]
  simp only [serves_good P hP, talksTo_good P hP, hH, hPl, pluginCfg, hostCfg]
  constructor <;> intro hl <;> simp only [hl, if_true, if_false, Bool.false_eq_true]
  · exact ⟨srv_accepts_legit _ hP.serverTls _ _, cli_accepts_legit _ hP.clientTls _ _ hn⟩
  · exact ⟨srv_accepts_legit _ hP.clientTls _ _, cli_accepts_legit _ hP.serverTls _ _ hn'⟩

/-! ### Each extracted fact is necessary (witnesses, `decide` on concrete instances) -/

def goodTls : TlsFacts := ⟨.requireAndVerifyClientCert, .peerCert, .peerCert, true, 771, false, true⟩
/-- the facts of the unchanged tree -/
def good : Params := ⟨goodTls, goodTls, true, true, true, true, true, true, true, true, true⟩
/-- host key 1, plugin key 2, a public CA (key 9) in the system roots; the intruder's key is 3 -/
def w0 : World := ⟨⟨1, 1, certName⟩, ⟨2, 2, certName⟩, [⟨9, 9, 5⟩]⟩

/-- server `ClientAuth: tls.RequestClientCert`: a certificate-less intruder is served on the main listeners -/
theorem request_client_cert_witness :
    let P := { good with serverTls := { goodTls with clientAuth := .requestClientCert } }
    serves P w0 .grpcMain (noCertPeer [3]) = true ∧ serves P w0 .rpcMain (selfSignedPeer 3 certName) = true ∧
    serves P w0 .brokerPlugin (noCertPeer [3]) = true := by decide

theorem no_client_cert_witness :
    serves { good with serverTls := { goodTls with clientAuth := .noClientCert } } w0 .rpcMain (noCertPeer [3]) = true := by
  decide

theorem require_any_client_cert_witness :
    serves { good with serverTls := { goodTls with clientAuth := .requireAnyClientCert } } w0 .grpcMain
      (selfSignedPeer 3 certName) = true := by decide

theorem verify_if_given_witness :
    serves { good with serverTls := { goodTls with clientAuth := .verifyClientCertIfGiven } } w0 .grpcMain
      (noCertPeer [3]) = true := by decide

/-- host `ClientAuth` weakened: the host-side brokered server serves a certificate-less intruder -/
theorem host_client_auth_witness :
    serves { good with clientTls := { goodTls with clientAuth := .requestClientCert } } w0 .brokerHost
      (noCertPeer [3]) = true := by decide

/-- plugin `ClientCAs` not pinned (nil → system roots): a certificate from any system CA is served -/
theorem client_cas_unpinned_witness :
    serves { good with serverTls := { goodTls with clientCAs := .none } } w0 .grpcMain (caIssuedPeer 3 9) = true := by
  decide

/-- host `RootCAs` not pinned (`loadServerCert` sets only `ClientCAs`): the host talks to an
impostor whose certificate comes from a system CA instead of the announced one -/
theorem root_cas_unpinned_witness :
    let P := { good with clientTls := { goodTls with rootCAs := .none } }
    talksTo P w0 .grpcMain (caIssuedPeer 3 9) = true ∧ talksTo P w0 .rpcMain (caIssuedPeer 3 9) = true ∧
    talksTo P w0 .brokerPlugin (caIssuedPeer 3 9) = true := by decide

/-- host `ClientCAs` not pinned: host-side brokered servers serve a system-CA certificate -/
theorem host_client_cas_unpinned_witness :
    serves { good with clientTls := { goodTls with clientCAs := .none } } w0 .brokerHost (caIssuedPeer 3 9) = true := by
  decide

/-- plugin `RootCAs` not pinned: the plugin's brokered dials talk to a system-CA certificate -/
theorem plugin_root_cas_unpinned_witness :
    talksTo { good with serverTls := { goodTls with rootCAs := .none } } w0 .brokerHost (caIssuedPeer 3 9) = true := by
  decide

theorem skip_verify_witness :
    talksTo { good with clientTls := { goodTls with insecureSkipVerify := true } } w0 .grpcMain
      (selfSignedPeer 3 7) = true := by decide

/-- `MinVersion` lowered to TLS 1.0 (769): a TLS 1.0 host is served -/
theorem min_version_witness :
    serves { good with serverTls := { goodTls with minVersion := 769 } } w0 .rpcMain ⟨true, 769, [w0.hostCert], [1]⟩ = true ∧
    serves good w0 .rpcMain ⟨true, 769, [w0.hostCert], [1]⟩ = false := by decide

/-- no `Certificates` / a `ServerName` that is not the certificates' DNS name: the LEGITIMATE pair cannot connect -/
theorem own_cert_and_server_name_witness :
    serves { good with clientTls := { goodTls with hasOwnCert := false } } w0 .grpcMain
      (hostAs { good with clientTls := { goodTls with hasOwnCert := false } } w0) = false ∧
    talksTo { good with clientTls := { goodTls with serverNameIsCertName := false } } w0 .grpcMain (pluginAs good w0) = false := by
  decide

/-- net/rpc listener not wrapped with `tls.NewListener`: plaintext is served -/
theorem rpc_listener_unwrapped_witness :
    serves { good with rpcListenerWrapped := false } w0 .rpcMain (plaintextPeer [3]) = true := by decide

/-- net/rpc dial not wrapped with `tls.Client`: the host talks to a plaintext peer -/
theorem rpc_dial_unwrapped_witness :
    talksTo { good with rpcDialWrapped := false } w0 .rpcMain (plaintextPeer [3]) = true := by decide

theorem grpc_server_nocreds_witness :
    serves { good with grpcServerCreds := false } w0 .grpcMain (plaintextPeer [3]) = true ∧
    serves { good with grpcServerCreds := false } w0 .grpcMuxMain (plaintextPeer [3]) = true := by decide

theorem grpc_dial_nocreds_witness :
    talksTo { good with grpcDialCreds := false } w0 .grpcMain (plaintextPeer [3]) = true ∧
    talksTo { good with grpcDialCreds := false } w0 .brokerHost (plaintextPeer [3]) = true := by decide

/-- brokered server built without creds (`AcceptAndServe` leaves `opts` empty): plaintext is served
on brokered listeners of BOTH sides, with and without multiplexing -/
theorem broker_serve_nocreds_witness :
    let P := { good with brokerServeCreds := false }
    serves P w0 .brokerPlugin (plaintextPeer [3]) = true ∧ serves P w0 .brokerHost (plaintextPeer [3]) = true ∧
    serves P w0 .muxBrokerPlugin (plaintextPeer [3]) = true ∧ serves P w0 .muxBrokerHost (plaintextPeer [3]) = true := by
  decide

/-- brokered dial with a nil config (`dialGRPCConn(nil, …)`): the dialling side talks plaintext -/
theorem broker_dial_nocreds_witness :
    talksTo { good with brokerDialCreds := false } w0 .brokerPlugin (plaintextPeer [3]) = true ∧
    talksTo { good with brokerDialCreds := false } w0 .brokerHost (plaintextPeer [3]) = true := by decide

theorem broker_mux_dial_nocreds_witness :
    talksTo { good with brokerMuxDialCreds := false } w0 .muxBrokerPlugin (plaintextPeer [3]) = true ∧
    talksTo { good with brokerMuxDialCreds := false } w0 .muxBrokerHost (plaintextPeer [3]) = true := by decide

/-- the plugin's broker not given the server's config: its brokered servers and dials are plaintext -/
theorem plugin_broker_tls_witness :
    serves { good with pluginBrokerTls := false } w0 .brokerPlugin (plaintextPeer [3]) = true ∧
    talksTo { good with pluginBrokerTls := false } w0 .brokerHost (plaintextPeer [3]) = true := by decide

/-- the host's broker not given `c.config.TLSConfig` -/
theorem host_broker_tls_witness :
    serves { good with hostBrokerTls := false } w0 .brokerHost (plaintextPeer [3]) = true ∧
    talksTo { good with hostBrokerTls := false } w0 .brokerPlugin (plaintextPeer [3]) = true := by decide

/-- The issuance assumption cannot be dropped: if the host's key HAD signed a
certificate for the intruder's key (possible: `IsCA: true`), the intruder would be served. -/
theorem honest_issuer_needed_witness :
    serves good w0 .grpcMain (caIssuedPeer 3 1) = true ∧ ¬ HonestIssuer w0.hostKey w0.hostCert (caIssuedPeer 3 1) :=
  ⟨by decide, by unfold HonestIssuer; decide⟩

example : good.Good := by decide
example : SelfSignedWorld w0 := by unfold SelfSignedWorld; decide
/-- the legitimate host is served on every plugin-side path, the legitimate plugin on the host-side ones -/
example : Path.all.all (fun path => if path.pluginListens then serves good w0 path (legitHost w0) && talksTo good w0 path (legitPlugin w0)
    else serves good w0 path (legitPlugin w0) && talksTo good w0 path (legitHost w0)) = true := by decide
/-- the six intruder classes against every path, both roles: all refused -/
example : Path.all.all (fun path =>
    [plaintextPeer [3], noCertPeer [3], selfSignedPeer 3 7, selfSignedPeer 3 certName, stapledPeer 3 w0.hostCert,
     stapledPeer 3 w0.announced, caIssuedPeer 3 9].all
      (fun p => !serves good w0 path p && !talksTo good w0 path p)) = true := by decide
example : HonestIssuer w0.hostKey w0.hostCert (stapledPeer 3 w0.hostCert) := by
  unfold HonestIssuer; decide
/-- the impostor: announces certificate (2,2) but serves with key 3 -/
example : talksTo good w0 .grpcMain (selfSignedPeer 3 certName) = false ∧
    talksTo good w0 .rpcMain (caIssuedPeer 3 9) = false := by decide

end GoPlugin.Props.C12
