import GoPlugin.Props.C07
import GoPlugin.Props.IdAlloc
import GoPlugin.Generated.Facts
import GoPlugin.Props.Hygiene
/- C07 at the facts extracted from the current source. -/
namespace GoPlugin.Instance.C07
open GrpcBroker Props.C07

theorem facts_good : Facts.grpcBroker.Good := by decide

/-- the pending windows are the documented five seconds -/
theorem windows_five_seconds : Facts.grpcBroker.dialWindow = 5000 ∧ Facts.grpcBroker.expiryWindow = 5000 := by decide

theorem holds_dial_reaches_accepted_listener (s : State) (h : Reachable Facts.grpcBroker s)
    (g : Nat) (d : Dial) (a : Nat) (hd : s.dials g = some d) (hpc : d.pc = .dialled a) :
    s.listeners a = some ⟨d.id⟩ :=
  dial_reaches_accepted_listener _ facts_good s h g d a hd hpc

/-- **about five seconds**: a waiting `Dial` is due at most 5000 ms from now, and a due timer's step is enabled -/
theorem holds_dial_due_within_five_seconds (s : GrpcBroker.State) (h : GrpcBroker.Reachable Facts.grpcBroker s)
    (g : Nat) (d : GrpcBroker.Dial) (hg : s.dials g = some d) (hw : d.pc = .wait) :
    d.deadline ≤ s.now + 5000 ∧ (d.deadline ≤ s.now → (GrpcBroker.step Facts.grpcBroker s (.dialTimeout g)).isSome) := by
  have := (dial_due_within_window Facts.grpcBroker s h).1 g d hg hw
  rw [windows_five_seconds.1] at this
  exact this

theorem dial_facts_good : Facts.grpcDial.Good := by decide

theorem holds_dial_reaches_own_id (id other : Nat) (b : Bool) : GrpcBroker.dialReaches Facts.grpcDial id other b = id :=
  dial_reaches_own_id _ dial_facts_good id other b

theorem idalloc_good : Facts.idAllocGrpc.Good := by decide

/-- `GRPCBroker.NextId` never hands the same ID to two callers, however their calls interleave -/
theorem holds_ids_distinct (es : List IdAlloc.Ev) (s : IdAlloc.State) (hr : IdAlloc.runFrom Facts.idAllocGrpc IdAlloc.init es = some s) :
    s.issued.Nodup := (Props.IdAlloc.ids_distinct _ idalloc_good es s hr).1

theorem holds_host_broker_uses_client_dir (clientDir : Option String) : Hygiene.hostBrokerDir Facts.hygiene clientDir = clientDir :=
  Props.Hygiene.host_broker_uses_client_dir _ (by decide) clientDir

theorem holds_one_slot_per_id (together : Bool) : Hygiene.slotsAfterRendezvous Facts.hygiene together = 1 :=
  Props.Hygiene.one_slot_per_id _ (by decide) together

theorem holds_brokered_server_has_cert (certViaCallback : Bool) : Hygiene.brokeredServerHasCert Facts.hygiene certViaCallback = true :=
  Props.Hygiene.brokered_server_has_cert _ (by decide) certViaCallback

theorem holds_socket_names_never_collide (k j : Nat) : Hygiene.socketNamesCanCollide Facts.hygiene k j = false :=
  Props.Hygiene.socket_names_never_collide _ (by decide) k j

end GoPlugin.Instance.C07
