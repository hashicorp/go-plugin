import GoPlugin.Props.C10
import GoPlugin.Generated.Facts
/-
C10 instantiated at the facts extracted from the current source (tie T-A):
`facts_good` (parseJSON's assertions are checked, every key of an hclog line is kept),
`drain_facts_good` (tokens are received from `linesCh`; stdout keeps being read after a scanner
error) and `reader_good` (the stderr reader's loop ends only on a read error, it starts reading
with `Start`, and the exit watcher waits for it) are re-checked on every run.
-/
namespace GoPlugin.Instance.C10
open LogLine Props.C10

/-- The current `parseJSON` cannot panic on a wrong-typed `@message` / `@level` / `@timestamp`. -/
theorem facts_good : Facts.logline.Good := by decide

/-- The current stdout reader receives every token and keeps draining after a scanner error. -/
theorem drain_facts_good : Facts.drain.Good := by decide

theorem holds_stderr_no_panic (E : Ext) (n : Nat) (input : Bytes) :
    (stderrLoop Facts.logline E n input).panicked = false :=
  stderr_no_panic _ facts_good E n input

theorem holds_stderr_copy_exact (E : Ext) (n : Nat) (input : Bytes) :
    (stderrLoop Facts.logline E n input).written = crlfToLf input ++ finalNewline n input :=
  stderr_copy_exact _ E n input (holds_stderr_no_panic E n input)

theorem holds_short_line_record (E : Ext) (n : Nat) (y rest : Bytes) (st : State)
    (hy : 10 ∉ y) (hlen : y.length < bufSize n) (hc : st.cont = false) :
    stderrFold Facts.logline E st (readAll n (y ++ 10 :: rest)) =
      (stderrFold Facts.logline E ⟨false, (expected Facts.logline E st.inPanic (dropCR y)).2⟩ (readAll n rest)).prepend
        (dropCR y ++ [10]) [(expected Facts.logline E st.inPanic (dropCR y)).1] :=
  short_line_record _ E n y rest st hy hlen hc (parseJSON_ne_panic _ facts_good E _)

theorem holds_stdout_always_drained (stream : Bytes) : Scanner.consumes Facts.drain stream = true :=
  stdout_always_drained _ drain_facts_good stream

/-- At the current source the stderr reader's loop ends only on a read error, reads from the start of `Start`, and is
waited for before `cmd.Wait` closes the pipe. -/
theorem reader_good : Facts.stderrReader.Good := by decide

theorem holds_stderr_taken_all (sinkFails : Nat → Bool) (lines : Nat) :
    LogLine.stderrTaken Facts.stderrReader sinkFails lines 0 = lines :=
  stderr_taken_all _ reader_good sinkFails lines 0

theorem holds_stderr_taken_before_handshake (lines : Nat) : LogLine.stderrTakenDuringStart Facts.stderrReader lines = lines :=
  stderr_taken_before_handshake _ reader_good lines

theorem holds_all_fields_kept (skipped : Bytes → Bool) (keys : List Bytes) : LogLine.keptKeys Facts.logline skipped keys = keys :=
  Props.C10.all_fields_kept _ facts_good skipped keys

end GoPlugin.Instance.C10
