import GoPlugin.Model.IdAlloc
import GoPlugin.Lemmas.Run
/-
Distinctness of reserved broker IDs for every number of callers and every interleaving (used by C06 and C07:
"concurrently outstanding distinct IDs" presupposes that `NextId` never hands the same ID to two callers).
-/
namespace GoPlugin.Props.IdAlloc
open GoPlugin IdAlloc

def Inv (s : State) : Prop := s.issued.Nodup ∧ ∀ x ∈ s.issued, 0 < x ∧ x ≤ s.counter

private theorem inv_step (P : Params) (hP : P.Good) (s s' : State) (e : Ev) (hi : Inv s) (hs : step P s e = some s') : Inv s' := by
  have hP' : P.singleOp = true := hP
  -- with the single operation only `call` returns a state (`add` and `load` are the two halves of the other variant)
  cases e <;> simp [step, hP'] at hs
  subst hs
  obtain ⟨hn, hb⟩ := hi
  -- the new id is the counter + 1: above every id handed out so far
  refine ⟨List.nodup_cons.2 ⟨fun hm => absurd (hb _ hm).2 (Nat.not_succ_le_self _), hn⟩, fun x hx => ?_⟩
  rcases List.mem_cons.1 hx with rfl | hx
  · exact ⟨Nat.succ_pos _, Nat.le_refl _⟩
  · exact ⟨(hb x hx).1, Nat.le_succ_of_le (hb x hx).2⟩

private theorem isRun (P : Params) : IsRun (step P) (runFrom P) :=
  ⟨fun _ => rfl, fun s e es => by simp only [runFrom]; cases step P s e <;> rfl⟩

/-- **No two `NextId` calls ever return the same ID** — any number of calls, any interleaving. -/
theorem ids_distinct (P : Params) (hP : P.Good) (es : List Ev) (s : State) (hr : runFrom P init es = some s) :
    s.issued.Nodup ∧ ∀ x ∈ s.issued, 0 < x :=
  have h := (isRun P).invariant (fun s e s' => inv_step P hP s s' e) (s := init) ⟨by simp [init], by simp [init]⟩ hr
  ⟨h.1, fun x hx => (h.2 x hx).1⟩

/-- non-vacuity: three calls are a run, and they return 3, 2, 1 -/
example : runFrom ⟨true⟩ init [.call, .call, .call] = some ⟨3, [3, 2, 1]⟩ := by decide

/-- Witness: an increment followed by a separate read lets two callers interleave `add add load load` and both get 2 -/
theorem two_op_witness : ∃ s, runFrom ⟨false⟩ init [.add, .add, .load, .load] = some s ∧ ¬ s.issued.Nodup :=
  exists_some_of_any (by decide)

end GoPlugin.Props.IdAlloc
