import GoPlugin.Lemmas.MuxBrokerStep
/-
`Consistent` — and, the same way, `Live` and (last section) `Timed` — is preserved by each elementary update
of the state under a local condition; every event is a composition of such updates.  The one idea: a stream's
status names the only thing that may point at it (queue / `Run` / a slot buffer / an Accept), so an event first
removes the pointer, then changes the status (`Unreferenced`), then installs the new pointer.
`{ h with clause := … }` proves an invariant of the updated state from `h`: the clauses not listed are taken
from `h` as they are, the two states agreeing by reduction on the fields those clauses read.
-/
namespace GoPlugin.MuxBroker

theorem isRun (P : Params) : IsRun (step P) (runFrom P) :=
  ⟨fun _ => rfl, fun s e es => by simp only [runFrom]; cases step P s e <;> rfl⟩

theorem reachable_init (P : Params) : Reachable P init := ⟨[], rfl⟩

theorem runFrom_append (P : Params) (s : State) (es fs : List Event) :
    runFrom P s (es ++ fs) = (runFrom P s es).bind (fun s' => runFrom P s' fs) :=
  (isRun P).append s es fs

theorem reachable_step {P : Params} {s s' : State} {e : Event}
    (h : Reachable P s) (hs : step P s e = some s') : Reachable P s' :=
  let ⟨es, hes⟩ := h; ⟨es ++ [e], (isRun P).snoc hes hs⟩

theorem reachable_induction {P : Params} {Inv : State → Prop} (h0 : Inv init)
    (hstep : ∀ s e s', Inv s → step P s e = some s' → Inv s') : ∀ s, Reachable P s → Inv s :=
  fun _ ⟨_, hes⟩ => (isRun P).invariant hstep h0 hes

def SlotHasId (s : State) (k i : Nat) : Prop := ∃ sl, s.slots k = some sl ∧ sl.id = i

structure Consistent (s : State) : Prop where
  fresh_slots : ∀ i, s.nSlots ≤ i → s.slots i = none
  fresh_streams : ∀ i, s.nStreams ≤ i → s.streams i = none
  fresh_accs : ∀ i, s.nAccs ≤ i → s.accs i = none
  fresh_tws : ∀ i, s.nTws ≤ i → s.tws i = none
  map_id : ∀ i k, s.map i = some k → SlotHasId s k i
  acc_id : ∀ g (a : Acc), s.accs g = some a → SlotHasId s a.slot a.id
  tw_id : ∀ t (w : Tw), s.tws t = some w → SlotHasId s w.slot w.id
  run_id : ∀ id k sid, s.run = .have id k sid → SlotHasId s k id ∧ s.streams sid = some ⟨id, .held⟩
  buf_st : ∀ k (sl : Slot) sid, s.slots k = some sl → sl.buf = some sid → s.streams sid = some ⟨sl.id, .parked k⟩
  took_st : ∀ g (a : Acc) sid, s.accs g = some a → a.pc = .took sid → s.streams sid = some ⟨a.id, .taken g⟩
  queue_st : ∀ sid, sid ∈ s.queue → ∃ i, s.streams sid = some ⟨i, .queued⟩
  queue_nodup : s.queue.Nodup

theorem consistent_init : Consistent init := by
  constructor <;> simp [init, SlotHasId]

variable {s : State}

theorem SlotHasId.id_eq {k i : Nat} {sl : Slot} (h : SlotHasId s k i) (hk : s.slots k = some sl) : sl.id = i := by
  obtain ⟨sl', h1, h2⟩ := h
  rw [hk] at h1; cases h1; exact h2

theorem Consistent.setTw (h : Consistent s) (t : Nat) (pc : TwPc) : Consistent (setTw s t pc) :=
  { h with
    fresh_tws := fun i hi => upd_map_eq_none.2 (h.fresh_tws i hi)
    tw_id := forall_upd_map h.tw_id fun _ _ hx => hx }

theorem Consistent.setAcc (h : Consistent s) (g : Nat) (pc : AccPc)
    (hpc : ∀ a sid, s.accs g = some a → pc = .took sid → s.streams sid = some ⟨a.id, .taken g⟩) :
    Consistent (setAcc s g pc) :=
  { h with
    fresh_accs := fun i hi => upd_map_eq_none.2 (h.fresh_accs i hi)
    acc_id := forall_upd_map h.acc_id fun _ _ hx => hx
    took_st := fun u a sid ha =>
      forall_upd_map (fun u a ha sid => h.took_st u a sid ha) (fun a ha _ sid => hpc a sid ha) u a ha sid }

/-- the slots table is replaced by one in which every slot keeps its id (`setSlot`, and the allocation in
`getStream`): what the map, the goroutines and `Run` say about slots stays true -/
theorem Consistent.setSlots (h : Consistent s) {f : Nat → Option Slot} {n : Nat} (hfresh : ∀ j, n ≤ j → f j = none)
    (hid : ∀ k sl, s.slots k = some sl → ∃ sl', f k = some sl' ∧ sl'.id = sl.id)
    (hbuf : ∀ k sl sid, f k = some sl → sl.buf = some sid → s.streams sid = some ⟨sl.id, .parked k⟩) :
    Consistent { s with slots := f, nSlots := n } :=
  have mono : ∀ {k i : Nat}, SlotHasId s k i → SlotHasId { s with slots := f, nSlots := n } k i :=
    fun ⟨sl, hk, hi⟩ => let ⟨sl', hk', hi'⟩ := hid _ sl hk; ⟨sl', hk', hi'.trans hi⟩
  { h with
    fresh_slots := hfresh
    map_id := fun i k hk => mono (h.map_id i k hk)
    acc_id := fun g a ha => mono (h.acc_id g a ha)
    tw_id := fun t w hw => mono (h.tw_id t w hw)
    run_id := fun i k sd hr => ⟨mono (h.run_id i k sd hr).1, (h.run_id i k sd hr).2⟩
    buf_st := hbuf }

theorem Consistent.setSlot (h : Consistent s) (k : Nat) (f : Slot → Slot) (hid : ∀ sl, (f sl).id = sl.id)
    (hbuf : ∀ sl sid, s.slots k = some sl → (f sl).buf = some sid → s.streams sid = some ⟨sl.id, .parked k⟩) :
    Consistent (setSlot s k f) :=
  h.setSlots (fun j hj => upd_map_eq_none.2 (h.fresh_slots j hj))
    (fun j sl hj => ⟨_, upd_map_eq_some.2 ⟨sl, hj, rfl⟩, by
      split
      · exact hid sl
      · rfl⟩)
    (fun j sl sid hj =>
      forall_upd_map (fun j sl hj sid => h.buf_st j sl sid hj) (fun sl hsl _ sid hb => hid sl ▸ hbuf sl sid hsl hb) j sl hj sid)

structure Unreferenced (s : State) (sid : Nat) : Prop where
  buf : ∀ k sl, s.slots k = some sl → sl.buf ≠ some sid
  took : ∀ g a, s.accs g = some a → a.pc ≠ .took sid
  run : ∀ id k, s.run ≠ .have id k sid
  queue : sid ∉ s.queue

theorem Consistent.unreferenced (h : Consistent s) {sid : Nat} {x : Stream} (hx : s.streams sid = some x)
    (hb : ∀ k sl, x.st = .parked k → s.slots k = some sl → sl.buf ≠ some sid)
    (ht : ∀ g, x.st ≠ .taken g)
    (hr : x.st = .held → ∀ id k, s.run ≠ .have id k sid)
    (hq : x.st = .queued → sid ∉ s.queue) : Unreferenced s sid :=
  -- whatever points at the stream records its status
  have st_eq : ∀ {i st}, s.streams sid = some ⟨i, st⟩ → x.st = st :=
    fun h' => congrArg Stream.st (Option.some.inj (hx.symm.trans h'))
  { buf := fun k sl hk hbuf => hb k sl (st_eq (h.buf_st k sl sid hk hbuf)) hk hbuf
    took := fun g a ha hp => ht g (st_eq (h.took_st g a sid ha hp))
    run := fun id k hrun => hr (st_eq (h.run_id id k sid hrun).2) id k hrun
    queue := fun hm => let ⟨_, hi⟩ := h.queue_st sid hm; hq (st_eq hi) hm }

theorem Consistent.setStream (h : Consistent s) {sid : Nat} (hu : Unreferenced s sid) (st : StreamSt) :
    Consistent (setStream s sid st) :=
  have other : ∀ {sd : Nat} {y : Stream}, sd ≠ sid → s.streams sd = some y → (MuxBroker.setStream s sid st).streams sd = some y :=
    fun hne hy => (upd_ne _ _ hne).trans hy
  { h with
    fresh_streams := fun i hi => upd_map_eq_none.2 (h.fresh_streams i hi)
    run_id := fun id k sd hr =>
      ⟨(h.run_id id k sd hr).1, other (fun e => hu.run id k (e ▸ hr)) (h.run_id id k sd hr).2⟩
    buf_st := fun k sl sd hk hb => other (fun e => hu.buf k sl hk (e ▸ hb)) (h.buf_st k sl sd hk hb)
    took_st := fun g a sd ha hp => other (fun e => hu.took g a ha (e ▸ hp)) (h.took_st g a sd ha hp)
    queue_st := fun sd hm =>
      let ⟨i, hi⟩ := h.queue_st sd hm
      ⟨i, other (fun e => hu.queue (e ▸ hm)) hi⟩ }

theorem Consistent.mapErase (h : Consistent s) (i : Nat) : Consistent { s with map := upd s.map i none } :=
  { h with map_id := forall_upd h.map_id nofun }

theorem Consistent.setRun (h : Consistent s) (r : RunPc)
    (hr : ∀ id k sid, r = .have id k sid → SlotHasId s k id ∧ s.streams sid = some ⟨id, .held⟩) :
    Consistent { s with run := r } :=
  { h with run_id := hr }

theorem Consistent.setLock (h : Consistent s) (l : Option Nat) : Consistent { s with lock := l } := { h with }

theorem Consistent.setNow (h : Consistent s) (n : Nat) : Consistent { s with now := n } := { h with }

theorem Consistent.newTw (h : Consistent s) (w : Tw) (hw : SlotHasId s w.slot w.id) :
    Consistent { s with tws := upd s.tws s.nTws (some w), nTws := s.nTws + 1 } :=
  { h with
    fresh_tws := upd_fresh_above h.fresh_tws (Nat.lt_succ_self _) (Nat.le_succ _)
    tw_id := forall_upd_some h.tw_id hw }

theorem Consistent.newAcc (h : Consistent s) (a : Acc) (ha : SlotHasId s a.slot a.id) (hpc : a.pc = .wait) :
    Consistent { s with accs := upd s.accs s.nAccs (some a), nAccs := s.nAccs + 1 } :=
  { h with
    fresh_accs := upd_fresh_above h.fresh_accs (Nat.lt_succ_self _) (Nat.le_succ _)
    acc_id := forall_upd_some h.acc_id ha
    took_st := fun g a' sid ha' =>
      forall_upd_some (fun g a ha sid => h.took_st g a sid ha) (fun sid hp => by rw [hpc] at hp; cases hp) g a' ha' sid }

theorem Consistent.popQueue (h : Consistent s) {sid : Nat} {q : List Nat} (hq : s.queue = sid :: q) :
    Consistent { s with queue := q } :=
  { h with
    queue_st := fun sd hm => h.queue_st sd (hq ▸ List.mem_cons_of_mem _ hm)
    queue_nodup := (List.nodup_cons.1 (hq ▸ h.queue_nodup)).2 }

theorem Consistent.dial (h : Consistent s) (id : Nat) :
    Consistent { s with streams := upd s.streams s.nStreams (some ⟨id, .queued⟩), nStreams := s.nStreams + 1,
                        queue := s.queue ++ [s.nStreams] } :=
  have hf := h.fresh_streams _ (Nat.le_refl _)
  have old : ∀ {sd : Nat} {y : Stream}, s.streams sd = some y → upd s.streams s.nStreams (some ⟨id, .queued⟩) sd = some y :=
    fun hy => upd_fresh_old hf hy
  { h with
    fresh_streams := upd_fresh_above h.fresh_streams (Nat.lt_succ_self _) (Nat.le_succ _)
    run_id := fun i k sd hr => ⟨(h.run_id i k sd hr).1, old (h.run_id i k sd hr).2⟩
    buf_st := fun k sl sd hk hb => old (h.buf_st k sl sd hk hb)
    took_st := fun g a sd ha hp => old (h.took_st g a sd ha hp)
    queue_st := fun sd hm => by
      rcases List.mem_append.1 hm with hm | hm
      · obtain ⟨i, hi⟩ := h.queue_st sd hm
        exact ⟨i, old hi⟩
      · cases List.mem_singleton.1 hm
        exact ⟨id, upd_same _ _ _⟩
    queue_nodup := List.nodup_append.2 ⟨h.queue_nodup, (by simp), fun a ha b hb e => by
      cases List.mem_singleton.1 hb
      obtain ⟨i, hi⟩ := h.queue_st a ha
      rw [e, hf] at hi; cases hi⟩ }

theorem Consistent.getStream (h : Consistent s) (id : Nat) :
    Consistent (getStream s id).1 ∧ SlotHasId (getStream s id).1 (getStream s id).2 id := by
  rcases getStream_cases s id with ⟨k, hm, e⟩ | ⟨hm, e⟩ <;> rw [e]
  · exact ⟨h, h.map_id id k hm⟩
  · have hf := h.fresh_slots _ (Nat.le_refl _)
    have h1 := h.setSlots (f := upd s.slots s.nSlots (some ⟨id, none, false⟩)) (upd_fresh_above h.fresh_slots (Nat.lt_succ_self _) (Nat.le_succ _))
      (fun k sl hk => ⟨sl, upd_fresh_old hf hk, rfl⟩)
      (fun k sl sd hk =>
        forall_upd_some (fun k sl hk sd => h.buf_st k sl sd hk) (fun sd hb => by cases hb) k sl hk sd)
    have hsl : SlotHasId { s with slots := upd s.slots s.nSlots (some ⟨id, none, false⟩) } s.nSlots id :=
      ⟨_, upd_same _ _ _, rfl⟩
    exact ⟨{ h1 with map_id := forall_upd_some h1.map_id hsl }, hsl⟩

/-- emptying a slot's buffer and giving the stream that was parked there a new status
(`drain`: closed; `accTake`: taken) -/
theorem Consistent.unpark (h : Consistent s) {k : Nat} {sl : Slot} {sid : Nat} (hk : s.slots k = some sl)
    (hb : sl.buf = some sid) (f : Slot → Slot) (hid : ∀ sl, (f sl).id = sl.id) (hf : ∀ sl, (f sl).buf = none)
    (st : StreamSt) : Consistent (MuxBroker.setStream (MuxBroker.setSlot s k f) sid st) :=
  have h1 := h.setSlot k f hid (fun sl _ _ hb => by rw [hf] at hb; cases hb)
  h1.setStream (h1.unreferenced (h.buf_st k sl sid hk hb)
    (fun k' sl' hp hk' => by
      cases hp
      obtain ⟨sl0, _, rfl⟩ := upd_map_eq_some.1 hk'
      rw [if_pos rfl, hf]; exact nofun)
    nofun nofun nofun) st

theorem Consistent.parkStart (h : Consistent s) (P : Params) {id k sid : Nat} (hrun : s.run = .have id k sid) :
    Consistent (parkStart P s id k) ∧ Unreferenced (parkStart P s id k) sid :=
  have ⟨hsl, hst⟩ := h.run_id id k sid hrun
  have h0 : Consistent (MuxBroker.parkStart P s id k) :=
    (h.newTw ⟨id, k, s.now + P.expiryWindow, .wait⟩ hsl).setRun .idle nofun
  ⟨h0, h0.unreferenced hst nofun nofun nofun nofun⟩

theorem Step.consistent {P : Params} {s s' : State} {e : Event} (h : Consistent s) (hs : Step P s e s') :
    Consistent s' := by
  cases hs with
  | dial id => exact h.dial id
  | @runTake sid q x hrun hq hl hx =>
    obtain ⟨h1, hsl⟩ := (h.popQueue hq).getStream x.id
    -- the stream was at the head of the queue, which has been popped
    have hu : Unreferenced (getStream { s with queue := q } x.id).1 sid := by
      obtain ⟨i, hi⟩ := h.queue_st sid (hq ▸ List.mem_cons_self)
      refine h1.unreferenced (x := ⟨i, .queued⟩) (by rw [getStream_streams]; exact hi) nofun nofun nofun
        (fun _ => ?_)
      rw [getStream_queue]
      exact (List.nodup_cons.1 (hq ▸ h.queue_nodup)).1
    refine (h1.setStream hu .held).setRun _ fun _ _ _ hr => ?_
    cases hr
    exact ⟨hsl, setStream_streams_self ((getStream_streams _ _).symm ▸ hx) _⟩
  | @runPark id k sid sl hrun hk hb =>
    obtain ⟨h0, hu⟩ := h.parkStart P hrun
    obtain ⟨hsl, hst⟩ := h.run_id id k sid hrun
    -- status first, pointer second: the model writes them the other way round, the two updates commute by reduction
    refine (h0.setStream hu (.parked k)).setSlot k (fun x => { x with buf := some sid }) (fun _ => rfl)
      fun sl' sd hk' hb' => ?_
    cases hb'
    cases hk.symm.trans hk'
    rw [hsl.id_eq hk]
    exact setStream_streams_self hst _
  | runDrop hrun hk hb =>
    obtain ⟨h0, hu⟩ := h.parkStart P hrun
    exact h0.setStream hu _
  | abort hrun =>
    split
    · exact h
    · exact h.setRun .dead nofun
  | accept id hl =>
    obtain ⟨h1, hsl⟩ := h.getStream id
    have := h1.newAcc ⟨id, (getStream s id).2, s.now + P.acceptWindow, .wait⟩ hsl rfl
    rwa [getStream_nAccs] at this
  | @accPanic g a sl sid ha hpc hk hb hd =>
    exact (h.setSlot a.slot (fun x => { x with buf := none }) (fun _ => rfl) nofun).setAcc
      g .panicked nofun
  | @accTake g a sl sid ha hpc hk hb hd =>
    refine (h.unpark hk hb (fun x => { x with buf := none, done := true }) (fun _ => rfl) (fun _ => rfl)
      (.taken g)).setAcc g (.took sid) fun a' sd ha' hp => ?_
    cases hp
    cases ha.symm.trans ha'
    rw [← (h.acc_id g a ha).id_eq hk]
    exact setStream_streams_self (h.buf_st _ _ _ hk hb) _
  | accTimeout ha hl hpc hd => exact (h.mapErase _).setAcc _ _ nofun
  | twDone hw hpc hk hd => exact h.setTw _ _
  | twTimer hw hpc hd => exact h.setTw _ _
  | twFinishDrain hw hl hpc hk hc hb =>
    exact ((h.mapErase _).unpark hk hb (fun x => { x with buf := none }) (fun _ => rfl) (fun _ => rfl) .closed).setTw _ _
  | twFinishSkip hw hl hpc hk hc => exact (h.mapErase _).setTw _ _
  | twBlock hw hl hpc hk hc hb hdf => exact ((h.mapErase _).setLock _).setTw _ _
  | twUnblock hw hl hpc hk hb =>
    exact ((h.unpark hk hb (fun x => { x with buf := none }) (fun _ => rfl) (fun _ => rfl) .closed).setLock _).setTw _ _
  | tick d => exact h.setNow _

theorem consistent_of_reachable (P : Params) (s : State) (h : Reachable P s) : Consistent s :=
  reachable_induction consistent_init (fun _ _ _ hi hs => Step.consistent hi (.of_step hs)) s h

/-- `timeoutWait` goroutine that has not yet run its final section. -/
def TwLive (w : Tw) : Prop := w.pc = .wait ∨ ∃ b, w.pc = .decided b

/-- Under the good facts: the mutex is free between events, `Run` is in its loop, no stream is
dropped unclosed, and every stream sitting in a slot buffer has a live `timeoutWait`
for that slot (which will close it if nobody accepts it). -/
structure Live (s : State) : Prop where
  lock_free : s.lock = none
  run_alive : s.run ≠ .dead
  not_dropped : ∀ sid (x : Stream), s.streams sid = some x → x.st ≠ .dropped
  buf_tw : ∀ k (sl : Slot) sid, s.slots k = some sl → sl.buf = some sid →
      ∃ t w, s.tws t = some w ∧ w.slot = k ∧ TwLive w

theorem live_init : Live init := by
  constructor <;> simp [init]

theorem Live.setAcc (h : Live s) (g : Nat) (pc : AccPc) : Live (setAcc s g pc) := { h with }
theorem Live.mapErase (h : Live s) (i : Nat) : Live { s with map := upd s.map i none } := { h with }
theorem Live.setRun (h : Live s) {r : RunPc} (hr : r ≠ .dead) : Live { s with run := r } := { h with run_alive := hr }
theorem Live.setNow (h : Live s) (n : Nat) : Live { s with now := n } := { h with }
theorem Live.setQueue (h : Live s) (q : List Nat) : Live { s with queue := q } := { h with }

theorem Live.setStream (h : Live s) (sid : Nat) (st : StreamSt) (hst : st ≠ .dropped) : Live (setStream s sid st) :=
  { h with
    not_dropped := forall_upd_map h.not_dropped fun _ _ _ => hst }

theorem Live.setSlot (h : Live s) (k : Nat) (f : Slot → Slot)
    (hbuf : ∀ sl sid, s.slots k = some sl → (f sl).buf = some sid → ∃ t w, s.tws t = some w ∧ w.slot = k ∧ TwLive w) :
    Live (setSlot s k f) :=
  { h with
    buf_tw := fun j sl sid hj =>
      forall_upd_map (fun j sl hj sid => h.buf_tw j sl sid hj) (fun sl hsl _ sid => hbuf sl sid hsl) j sl hj sid }

theorem Live.setTw (h : Live s) (t : Nat) (pc : TwPc)
    (hpc : (∃ b, pc = .decided b) ∨ ∀ w sl, s.tws t = some w → s.slots w.slot = some sl → sl.buf = none) :
    Live (setTw s t pc) :=
  { h with
    buf_tw := fun k sl sid hk hb => by
      obtain ⟨t', w', hw', hws, hwl⟩ := h.buf_tw k sl sid hk hb
      refine ⟨t', _, upd_map_eq_some.2 ⟨w', hw', rfl⟩, ?_⟩
      by_cases ht : t' = t
      · subst ht
        rw [if_pos rfl]
        rcases hpc with ⟨b, rfl⟩ | hpc
        · exact ⟨hws, .inr ⟨b, rfl⟩⟩
        · rw [hpc w' sl hw' (hws ▸ hk)] at hb; cases hb
      · rw [if_neg ht]; exact ⟨hws, hwl⟩ }

theorem Live.newTw (h : Live s) (hc : Consistent s) (w : Tw) :
    Live { s with tws := upd s.tws s.nTws (some w), nTws := s.nTws + 1 } :=
  { h with
    buf_tw := fun k sl sid hk hb =>
      let ⟨t', w', hw', hws⟩ := h.buf_tw k sl sid hk hb
      ⟨t', w', upd_fresh_old (hc.fresh_tws _ (Nat.le_refl _)) hw', hws⟩ }

theorem Live.getStream (h : Live s) (id : Nat) : Live (getStream s id).1 := by
  rcases getStream_cases s id with ⟨k, _, e⟩ | ⟨_, e⟩ <;> rw [e]
  · exact h
  · exact { h with
      buf_tw := fun k sl sid hk =>
        forall_upd_some (fun k sl hk sid => h.buf_tw k sl sid hk) (fun sid hb => by cases hb) k sl hk sid }

namespace Params.Good
variable {P : Params} (h : P.Good)
include h
theorem expiryRecvHasDefault : P.expiryRecvHasDefault = true := h.1
theorem expiryDrainsAlways : P.expiryDrainsAlways = true := h.2.1
theorem runClosesDropped : P.runClosesDropped = true := h.2.2.1
theorem headerErrorContinues : P.headerErrorContinues = true := h.2.2.2.1
end Params.Good

namespace AcceptParams.Good
variable {A : AcceptParams} (h : A.Good)
include h
theorem timeoutArmStraight : A.timeoutArmStraight = true := h.1
theorem mapOwnedByAcceptSide : A.mapOwnedByAcceptSide = true := h.2
end AcceptParams.Good

theorem Step.live {P : Params} (hP : P.Good) {s s' : State} {e : Event}
    (hc : Consistent s) (h : Live s) (hs : Step P s e s') : Live s' := by
  cases hs with
  | dial id =>
    exact { h with not_dropped := forall_upd_some h.not_dropped nofun }
  | @runTake sid q x hrun hq hl hx =>
    exact (((h.setQueue q).getStream x.id).setRun (fun hd => by cases hd)).setStream sid .held nofun
  | @runPark id k sid sl hrun hk hb =>
    -- the `timeoutWait` just started is the live one for slot `k`
    exact (((h.newTw hc _).setRun (r := .idle) nofun).setSlot k _ fun _ _ _ _ =>
      ⟨s.nTws, ⟨id, k, s.now + P.expiryWindow, .wait⟩, upd_same _ _ _, rfl, .inl rfl⟩).setStream sid _ nofun
  | @runDrop id k sid sl sid' hrun hk hb =>
    rw [hP.runClosesDropped]
    exact ((h.newTw hc _).setRun (r := .idle) nofun).setStream sid .closed nofun
  | abort hrun => rw [hP.headerErrorContinues]; exact h
  | accept id hl => exact { h.getStream id with }
  | @accPanic g a sl sid ha hpc hk hb hd =>
    exact (h.setSlot a.slot (fun x => { x with buf := none }) nofun).setAcc _ _
  | @accTake g a sl sid ha hpc hk hb hd =>
    exact ((h.setSlot a.slot (fun x => { x with buf := none, done := true }) nofun).setStream sid (.taken g)
      nofun).setAcc _ _
  | accTimeout ha hl hpc hd => exact (h.mapErase _).setAcc _ _
  | twDone hw hpc hk hd => exact h.setTw _ _ (.inl ⟨_, rfl⟩)
  | twTimer hw hpc hd => exact h.setTw _ _ (.inl ⟨_, rfl⟩)
  | @twFinishDrain t w timeout sl sid hw hl hpc hk hc' hb =>
    -- the slot has just been emptied
    refine (((h.mapErase w.id).setSlot w.slot (fun x => { x with buf := none }) nofun).setStream sid .closed
      nofun).setTw t .finished (.inr fun w' sl' hw' hk' => ?_)
    cases hw.symm.trans hw'
    obtain ⟨sl0, _, rfl⟩ := upd_map_eq_some.1 hk'
    rw [if_pos rfl]
  | @twFinishSkip t w timeout sl hw hl hpc hk hc' =>
    -- under the good facts the receive was attempted, so it found the slot empty
    have hb : sl.buf = none := by
      rcases hc' with hc' | ⟨hb, _⟩
      · simp [hP.expiryDrainsAlways] at hc'
      · exact hb
    refine (h.mapErase w.id).setTw t .finished (.inr fun w' sl' hw' hk' => ?_)
    cases hw.symm.trans hw'
    cases hk.symm.trans hk'
    exact hb
  | twBlock hw hl hpc hk hc' hb hdf => rw [hP.expiryRecvHasDefault] at hdf; cases hdf
  | twUnblock hw hl hpc hk hb => rw [h.lock_free] at hl; cases hl
  | tick d => exact h.setNow _

theorem consistent_live_of_reachable (P : Params) (hP : P.Good) (s : State) (h : Reachable P s) :
    Consistent s ∧ Live s :=
  reachable_induction (Inv := fun s => Consistent s ∧ Live s) ⟨consistent_init, live_init⟩
    (fun _ _ _ hi hs => ⟨Step.consistent hi.1 (.of_step hs), Step.live hP hi.1 hi.2 (.of_step hs)⟩) s h

/-! ### Timers

A deadline is set once, when the goroutine starts
waiting (`now + window`), never changed afterwards, and the clock only moves
forward — so in every reachable state every deadline lies at most one window
ahead of the clock.  Holds for every `Params` (no structural fact is needed). -/

structure Timed (P : Params) (s : State) : Prop where
  acc : Due Acc.deadline s.accs (s.now + P.acceptWindow)
  tw : Due Tw.deadline s.tws (s.now + P.expiryWindow)

theorem timed_init (P : Params) : Timed P init := ⟨nofun, nofun⟩

variable {P : Params}

theorem Timed.congr {s' : State} (h : Timed P s) (ha : s'.accs = s.accs) (ht : s'.tws = s.tws) (hn : s'.now = s.now) :
    Timed P s' :=
  ⟨by rw [ha, hn]; exact h.acc, by rw [ht, hn]; exact h.tw⟩

/-- a new entry is due exactly a window from now; an entry whose pc changes keeps its deadline; `tick` moves the
bound on.  Where only one component is named, the other table and the clock are the old ones by reduction. -/
theorem Step.timed {s' : State} {e : Event} (h : Timed P s) (hs : Step P s e s') : Timed P s' := by
  obtain ⟨ha, ht⟩ := h
  cases hs with
  | dial id => exact ⟨ha, ht⟩
  | runTake hrun hq hl hx => exact Timed.congr ⟨ha, ht⟩ (getStream_accs _ _) (getStream_tws _ _) (getStream_now _ _)
  | runPark | runDrop => exact ⟨ha, ht.upd _ (Nat.le_refl _)⟩
  | abort hrun => split <;> exact ⟨ha, ht⟩
  | accept id hl =>
    have h1 := Timed.congr ⟨ha, ht⟩ (getStream_accs s id) (getStream_tws s id) (getStream_now s id)
    exact ⟨h1.acc.upd _ (by rw [getStream_now]; exact Nat.le_refl _), h1.tw⟩
  | accPanic | accTake | accTimeout => exact ⟨ha.upd_map _ fun _ => rfl, ht⟩
  | twDone | twTimer | twFinishDrain | twFinishSkip | twBlock | twUnblock => exact ⟨ha, ht.upd_map _ fun _ => rfl⟩
  | tick d =>
    exact ⟨ha.mono (Nat.add_le_add_right (Nat.le_add_right ..) _), ht.mono (Nat.add_le_add_right (Nat.le_add_right ..) _)⟩

theorem timed_of_reachable (P : Params) (s : State) (h : Reachable P s) : Timed P s :=
  reachable_induction (timed_init P) (fun _ _ _ hi hs => Step.timed hi (.of_step hs)) s h

end GoPlugin.MuxBroker
