import GoPlugin.Model.Crash
import GoPlugin.Lemmas.Lifecycle
/-
C03 — Plugin failure at any point becomes a host error, never a crash or hang.

The part of the property that is logic: once the process is dead, the host's
goroutines drive themselves — without waiting on anything but the pipes' EOF and
the process's exit status — to `exited = true` and a cancelled `doneCtx`; and
`Start` cannot outwait its timer or miss the exit.  Assumed, not proved
(`DeadPeerFails`): an RPC, dispense, ping or brokered accept/dial that needs the
dead peer completes with an error within the transport's own bound; the
correspondence run enumerates crash points × protocols × operations on real
processes to exercise exactly that.
-/
namespace GoPlugin.Crash.Params.Good
variable {P : Params} (h : P.Good)
include h
private theorem waitCancelsCtx : P.waitCancelsCtx = true := h.1
private theorem waitSetsExited : P.waitSetsExited = true := h.2.1
private theorem drainsAfterScannerError : P.drainsAfterScannerError = true := h.2.2.1
private theorem startWatchesExit : P.startWatchesExit = true := h.2.2.2.1
private theorem startHasTimeout : P.startHasTimeout = true := h.2.2.2.2.1
private theorem linesAlwaysDrained : P.linesAlwaysDrained = true := h.2.2.2.2.2.1
private theorem streamEndClosesQuit : P.streamEndClosesQuit = true := h.2.2.2.2.2.2.1
private theorem waitOnlyForProcess : P.waitOnlyForProcess = true := h.2.2.2.2.2.2.2
end GoPlugin.Crash.Params.Good

namespace GoPlugin.Props.C03
open Crash

def pGood : Params := ⟨true, true, true, true, true, true, true, true⟩

structure Inv (s : State) : Prop where
  pipes : s.wait ≠ .waitPipes → s.stderrOpen = false ∧ s.stdout = .done
  reading : s.stdout ≠ .stuck ∧ s.stdout ≠ .blocked
  marked : s.wait = .cancelling ∨ s.wait = .done → s.exited = true
  cancelled : s.wait = .done → s.ctxCancelled = true

theorem inv_init : Inv init := by constructor <;> simp [init]

theorem inv_step {P : Params} (hP : P.Good) {s s' : State} {e : Event} (hi : Inv s) (hs : step P s e = some s') : Inv s' := by
  obtain ⟨p, r, m, c⟩ := hi
  -- `pipes` read both ways: while the scanner scans, the wait goroutine is still at the pipes; at a later stage both
  -- readers are done
  have atPipes : s.stdout = .scanning → s.wait ≠ .waitPipes → False := fun hsc hw => nomatch hsc.symm.trans (p hw).2
  have past : ∀ {w}, s.wait = w → w ≠ .waitPipes → s.stderrOpen = false ∧ s.stdout = .done := fun hw hne => p (hw ▸ hne)
  -- `hs` becomes the event's guard `hc` together with `s' = { s with … }` (one or two fields updated); then, event by
  -- event, the four clauses in order: one that reads no updated field is the old one
  cases e <;>
    simp only [step, Option.ite_none_right_eq_some, Option.some.injEq, Bool.and_eq_true, Bool.or_eq_true,
      Bool.not_eq_true', decide_eq_true_eq] at hs <;>
    obtain ⟨hc, rfl⟩ := hs
  case procDies => exact ⟨p, r, m, c⟩
  case scannerError =>
    rw [hP.drainsAfterScannerError]
    exact ⟨fun hw => (atPipes hc hw).elim, ⟨nofun, nofun⟩, m, c⟩
  case extraLine =>
    rw [hP.linesAlwaysDrained]
    exact ⟨fun hw => (atPipes hc.2 hw).elim, ⟨nofun, nofun⟩, m, c⟩
  case stderrEOF => exact ⟨fun hw => ⟨rfl, (p hw).2⟩, r, m, c⟩
  case stdoutEOF => exact ⟨fun hw => ⟨(p hw).1, rfl⟩, ⟨nofun, nofun⟩, m, c⟩
  case pipesDone => exact ⟨fun _ => ⟨hc.1.2, hc.2.resolve_right r.1⟩, r, nofun, nofun⟩
  case waitReturns => exact ⟨fun _ => past hc.1.1 nofun, r, nofun, nofun⟩
  case markExited =>
    rw [hP.waitSetsExited]
    exact ⟨fun _ => past hc nofun, r, fun _ => Bool.or_true _, nofun⟩
  case cancel =>
    rw [hP.waitCancelsCtx]
    exact ⟨fun _ => past hc nofun, r, fun _ => m (.inl hc), fun _ => Bool.or_true _⟩

theorem isRun (P : Params) : IsRun (step P) (runFrom P) :=
  ⟨fun _ => rfl, fun s e es => by simp only [runFrom]; cases step P s e <;> rfl⟩

theorem inv_of_reachable {P : Params} (hP : P.Good) {s : State} : Reachable P s → Inv s :=
  fun ⟨_, hes⟩ => (isRun P).invariant (fun _ _ _ => inv_step hP) inv_init hes

/-- one pass over `internal` is enough because its order is the order of the stages: each reader is at EOF or enabled to
reach it (`reading`), then the wait goroutine's stages follow one another -/
theorem settle_of_inv {P : Params} (hP : P.Good) {s : State} (hi : Inv s) (hd : s.procAlive = false) :
    (settle P s).exited = true ∧ (settle P s).ctxCancelled = true ∧ (settle P s).wait = .done := by
  obtain ⟨pa, so, out, w, ex, cc⟩ := s
  obtain ⟨p, ⟨r1, r2⟩, m, c⟩ := hi
  simp only at hd p r1 r2 m c
  subst hd
  cases w
  case waitPipes =>
    cases so <;> cases out <;>
      simp [settle, internal, step, hP.waitCancelsCtx, hP.waitSetsExited, hP.waitOnlyForProcess] at r1 r2 ⊢
  -- past the pipes both readers are done (`pipes`), and what the wait goroutine has set stays set (`marked`, `cancelled`)
  all_goals
    obtain ⟨rfl, rfl⟩ := p (by simp)
    simp [settle, internal, step, hP.waitCancelsCtx, hP.waitSetsExited, hP.waitOnlyForProcess, m, c]

/-- **After the process dies, the client reports it as exited and the context is cancelled**: from
EVERY reachable state in which the process is dead, running each enabled host-side step once
(six steps at most, none of which waits on anything but pipe EOF / process exit) ends with
`exited = true`, `doneCtx` cancelled and the wait goroutine finished — whatever happened before:
scanner errors, partial reads, any order of the events. -/
theorem exited_and_cancelled (P : Params) (hP : P.Good) (s : State) (h : Reachable P s) (hd : s.procAlive = false) :
    (settle P s).exited = true ∧ (settle P s).ctxCancelled = true ∧ (settle P s).wait = .done :=
  settle_of_inv hP (inv_of_reachable hP h) hd

/-- no reachable state has the stdout reader stuck (every byte keeps being read until EOF) -/
theorem stdout_never_stuck (P : Params) (hP : P.Good) (s : State) (h : Reachable P s) : s.stdout ≠ .stuck :=
  (inv_of_reachable hP h).reading.1

/-- no reachable state has the stdout scanner blocked on handing over a line: whatever the plugin prints on its
real stdout after the handshake line — and however `Start` returned — is received by somebody -/
theorem stdout_never_blocked (P : Params) (hP : P.Good) (s : State) (h : Reachable P s) : s.stdout ≠ .blocked :=
  (inv_of_reachable hP h).reading.2

/-- **`Start` cannot wait longer than its timeout and notices an early exit**: with the timer arm and the
`doneCtx` arm present, silence and early exit are both errors (this is the select of C01's model; restated
as facts because here they are what bounds `Start` when the plugin dies before or during the handshake). -/
theorem start_bounded (P : Params) (hP : P.Good) : P.startHasTimeout = true ∧ P.startWatchesExit = true :=
  ⟨hP.startHasTimeout, hP.startWatchesExit⟩

/-- **Every operation that needs the plugin errs once it is dead; Kill and Exited() still succeed** (under `DeadPeerFails`). -/
theorem needs_plugin_errs (P : Params) (hP : P.Good) (op : Op) :
    afterCrash P op = (if op = .kill ∨ op = .exitedQuery then Res.ok else Res.err) := by
  cases op <;> simp [afterCrash, needsPlugin, usesBrokerStream, hP.streamEndClosesQuit]

theorem no_op_hangs (P : Params) (hP : P.Good) (op : Op) : afterCrash P op ≠ .hang := by
  rw [needs_plugin_errs P hP]; split <;> simp

/-- without `defer c.ctxCancel()` the context handed to gRPC plugin clients is never cancelled -/
theorem no_cancel_witness :
    (settle ⟨false, true, true, true, true, true, true, true⟩ ⟨false, true, .scanning, .waitPipes, false, false⟩).ctxCancelled = false := by decide

/-- without the drain, a scanner that stopped on a long line leaves stdout unread (C10's defect D7 seen from here) -/
theorem no_drain_witness :
    ∃ s, runFrom ⟨true, true, false, true, true, true, true, true⟩ init [.scannerError] = some s ∧ s.stdout = .stuck :=
  exists_some_of_any (by decide)

/-- when nobody receives from `linesCh` after `Start` returned, one further stdout line wedges the scanner: after the
process dies the client never reports it as exited and the context is never cancelled -/
theorem no_lines_drain_witness :
    ∃ s, runFrom ⟨true, true, true, true, true, false, true, true⟩ init [.extraLine, .procDies] = some s ∧ s.procAlive = false ∧
      (settle ⟨true, true, true, true, true, false, true, true⟩ s).exited = false ∧
      (settle ⟨true, true, true, true, true, false, true, true⟩ s).ctxCancelled = false :=
  exists_some_of_any (by decide)

/-- when the command's stdin is anything but the host's stdin file, `cmd.Wait` also waits for os/exec's stdin copier: with an
open, idle host stdin the plugin's death is never reported -/
theorem stdin_copier_witness :
    ∃ s, runFrom ⟨true, true, true, true, true, true, true, false⟩ init [.procDies] = some s ∧ s.procAlive = false ∧
      (settle ⟨true, true, true, true, true, true, true, false⟩ s).exited = false ∧
      (settle ⟨true, true, true, true, true, true, true, false⟩ s).ctxCancelled = false :=
  exists_some_of_any (by decide)

/-- when a `StartStream` can return without closing `quit` (the stream could not even be opened because the plugin was
already dead), a later host-side broker Accept or Dial blocks for ever -/
theorem quit_not_closed_witness :
    afterCrash ⟨true, true, true, true, true, true, false, true⟩ .brokerAccept = .hang ∧
    afterCrash ⟨true, true, true, true, true, true, false, true⟩ .brokerDial = .hang := by decide

/-- non-vacuity: further stdout lines, then death -/
example : ∃ s, runFrom pGood init [.extraLine, .extraLine, .procDies] = some s ∧ s.procAlive = false ∧
    (settle pGood s).exited = true ∧ (settle pGood s).ctxCancelled = true :=
  exists_some_of_any (by decide)

/-- non-vacuity: death in the middle of scanning, with a scanner error before -/
example : ∃ s, runFrom pGood init [.scannerError, .procDies] = some s ∧ s.procAlive = false ∧
    (settle pGood s).exited = true ∧ (settle pGood s).ctxCancelled = true ∧ (settle pGood s).wait = .done :=
  exists_some_of_any (by decide)

/-- **The exit watcher of a reattached client waits for the plugin itself**, child of this host or not, **and notices its
death within a second**, however long the plugin had been running. -/
theorem reattached_exit_noticed (R : Lifecycle.ReattachParams) (hR : R.Good) (isChild : Bool) (ageMs : Nat) :
    Lifecycle.reattachWaitFaithful R isChild = true ∧ Lifecycle.reattachExitNoticedWithin R ageMs ≤ 1000 := by
  simp [Lifecycle.reattachWaitFaithful, Lifecycle.reattachExitNoticedWithin, hR.waitPolls, hR.pollMs_pos, hR.pollMs_le]

/-- Witnesses: `os.Process.Wait` on a plugin another process launched returns at once (the client reports a running plugin
as exited); a polling interval that backs off notices the crash of a plugin that ran for an hour an hour late -/
theorem reattach_wait_witnesses :
    Lifecycle.reattachWaitFaithful ⟨true, false, 1000⟩ false = false ∧
    Lifecycle.reattachExitNoticedWithin ⟨true, true, 0⟩ 3600000 = 3600000 := by decide

end GoPlugin.Props.C03
