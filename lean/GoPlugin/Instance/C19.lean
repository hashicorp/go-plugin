import GoPlugin.Props.C19
import GoPlugin.Generated.Facts
/- C19 at the facts extracted from the current source. -/
namespace GoPlugin.Instance.C19
open Lifecycle Props.C19

/-- the current source: retry guard, address short-circuit, cached client, dir removal, test-mode reattach without runner,
`ReattachConfig()` keeps the `Test` flag, `Start` holds the client lock throughout -/
theorem facts_good : Facts.lifecycle.Good := by decide

theorem holds_launch_at_most_once (l : Launch) (alive : Bool) (s : State) (h : Reachable Facts.lifecycle l alive s) :
    s.launches ≤ 1 := launch_at_most_once _ facts_good l alive s h

theorem holds_start_same_address (l : Launch) (alive : Bool) (s : State) (h : Reachable Facts.lifecycle l alive s)
    (a b : Nat) (ha : Out.okAddr a ∈ s.outs) (hb : Out.okAddr b ∈ s.outs) : a = b :=
  start_same_address _ facts_good l alive s h a b ha hb

theorem holds_client_same_client (l : Launch) (alive : Bool) (s : State) (h : Reachable Facts.lifecycle l alive s)
    (c d : Nat) (hc : Out.okClient c ∈ s.outs) (hd : Out.okClient d ∈ s.outs) : c = d :=
  client_same_client _ facts_good l alive s h c d hc hd

/-- the address a successful launching `Start` hands out IS the one it records for later calls (one assignment, the last
statement before the return: C01's fact) — so the model's "okAddr of the recorded address" covers the first call too -/
theorem first_start_returns_recorded_address : Facts.handshake.addressAssignedLast = true := by decide

end GoPlugin.Instance.C19
