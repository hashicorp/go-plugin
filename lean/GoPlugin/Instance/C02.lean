import GoPlugin.Props.C02
import GoPlugin.Generated.Facts
/-
C02 instantiated at the facts extracted from the current source (tie T-A):
the obligation `facts_good` is re-checked on every run.
-/
namespace GoPlugin.Instance.C02
open Negotiate Props.C02

/-- The current source visits the plugin's versions in descending order, falls
back to the last visited version, and the client compares for equality. -/
theorem facts_good : Facts.negotiate.Good := by decide

theorem holds_pick_highest_common (cfg : ServeCfg) (clientVs : List Int)
    (hc : ∃ v, v ∈ clientVs ∧ v ∈ keys cfg.folded) :
    (serverPick Facts.negotiate cfg clientVs).1 ∈ clientVs ∧
    (serverPick Facts.negotiate cfg clientVs).1 ∈ keys cfg.folded ∧
    (∀ w, w ∈ clientVs → w ∈ keys cfg.folded → w ≤ (serverPick Facts.negotiate cfg clientVs).1) ∧
    (serverPick Facts.negotiate cfg clientVs).2.2 = lookup cfg.folded (serverPick Facts.negotiate cfg clientVs).1 :=
  pick_highest_common _ facts_good cfg clientVs hc

theorem holds_client_accepts_pick (h : HostCfg) (cfg : ServeCfg)
    (hr : ∀ k ∈ keys h.folded, InRange k)
    (hc : ∃ v, v ∈ keys h.folded ∧ v ∈ keys cfg.folded) :
    let st := (negotiate Facts.negotiate h cfg).1
    st.1 ∈ keys h.folded ∧ st.1 ∈ keys cfg.folded ∧
    (∀ w, w ∈ keys h.folded → w ∈ keys cfg.folded → w ≤ st.1) ∧
    st.2.2 = lookup cfg.folded st.1 ∧
    ∃ hs, lookup h.folded st.1 = some hs ∧ (negotiate Facts.negotiate h cfg).2 = .ok (st.1, hs) :=
  client_accepts_pick _ facts_good h cfg hr hc

theorem holds_never_different_versions (h : HostCfg) (cfg : ServeCfg) (v : Int) (hs : SetId)
    (hok : (negotiate Facts.negotiate h cfg).2 = .ok (v, hs)) :
    v = (negotiate Facts.negotiate h cfg).1.1 ∧ lookup h.folded v = some hs ∧
    (negotiate Facts.negotiate h cfg).1.2.2 = lookup cfg.folded v :=
  never_different_versions _ facts_good h cfg v hs hok

theorem holds_disjoint_fails (h : HostCfg) (cfg : ServeCfg)
    (hr : ∀ k ∈ keys cfg.folded, InRange k)
    (hd : ∀ v, v ∈ keys h.folded → v ∉ keys cfg.folded) (hne : cfg.folded ≠ []) :
    (negotiate Facts.negotiate h cfg).1.1 ∈ keys cfg.folded ∧
    (∀ w, w ∈ keys cfg.folded → (negotiate Facts.negotiate h cfg).1.1 ≤ w) ∧
    (negotiate Facts.negotiate h cfg).2 = .error .versionIncompatible :=
  disjoint_fails _ facts_good h cfg hr hd hne

theorem holds_no_list_lowest (cfg : ServeCfg) (env : Bytes)
    (he : env = [] ∨ parseVersions env = []) (hne : cfg.folded ≠ []) :
    (serverPickEnv Facts.negotiate cfg env).1 ∈ keys cfg.folded ∧
    (∀ w, w ∈ keys cfg.folded → (serverPickEnv Facts.negotiate cfg env).1 ≤ w) ∧
    (serverPickEnv Facts.negotiate cfg env).2.2 = lookup cfg.folded (serverPickEnv Facts.negotiate cfg env).1 :=
  no_list_lowest _ facts_good cfg env he hne

end GoPlugin.Instance.C02
