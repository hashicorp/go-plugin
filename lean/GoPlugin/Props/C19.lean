import GoPlugin.Lemmas.Lifecycle
/-
C19 — A Client launches its plugin at most once and its accessors are idempotent.

Quantifiers: every launch method, every finite sequence / interleaving of
Start, Client, Protocol, ReattachConfig, ID, Exited and the two parts of Kill,
every environment behaviour (each launched process may or may not complete the
handshake, creating the protocol client may or may not succeed, the process may
die at any point) — including sequences whose first Start fails.
-/
namespace GoPlugin.Props.C19
open Lifecycle

/-- **The plugin is launched at most once**, whatever is called, in whatever order, however often. -/
theorem launch_at_most_once (P : Params) (hP : P.Good) (l : Launch) (alive : Bool) (s : State)
    (h : Reachable P l alive s) : s.launches ≤ 1 :=
  (inv_of_reachable P hP l alive s h).once

/-- **All successful Start calls return the same address.** -/
theorem start_same_address (P : Params) (hP : P.Good) (l : Launch) (alive : Bool) (s : State)
    (h : Reachable P l alive s) (a b : Nat) (ha : Out.okAddr a ∈ s.outs) (hb : Out.okAddr b ∈ s.outs) : a = b :=
  have hi := inv_of_reachable P hP l alive s h
  Option.some.inj ((hi.addr_hist a ha).symm.trans (hi.addr_hist b hb))

/-- **All successful Client calls return the same protocol client.** -/
theorem client_same_client (P : Params) (hP : P.Good) (l : Launch) (alive : Bool) (s : State)
    (h : Reachable P l alive s) (c d : Nat) (hc : Out.okClient c ∈ s.outs) (hd : Out.okClient d ∈ s.outs) : c = d :=
  have hi := inv_of_reachable P hP l alive s h
  Option.some.inj ((hi.client_hist c hc).symm.trans (hi.client_hist d hd))

/-- **After Kill no call launches the plugin again**: once launched, the count stays at one for every continuation. -/
theorem no_launch_after_kill (P : Params) (hP : P.Good) (l : Launch) (alive : Bool) (s : State)
    (h : Reachable P l alive s) (es : List Event) (s' : State) (hr : runFrom P s es = some s') :
    s'.launches ≤ 1 :=
  (inv_runFrom P hP es s s' (inv_of_reachable P hP l alive s h) hr).once

/-- At most one temporary socket directory is ever created for a custom runner. -/
theorem one_socket_dir (P : Params) (hP : P.Good) (l : Launch) (alive : Bool) (s : State)
    (h : Reachable P l alive s) : s.dirsCreated ≤ 1 :=
  (inv_of_reachable P hP l alive s h).dirs_le_one

/-- **`ReattachConfig`, `ID` and `Exited` are accessors**: whatever the state, they launch nothing, start nothing, cache
nothing and kill nothing — they only return. -/
theorem accessors_change_nothing (P : Params) (s s' : State) (e : Event)
    (he : e = .reattachConfig ∨ e = .id ∨ e = .exited) (h : step P s e = some s') :
    s'.launches = s.launches ∧ s'.addr = s.addr ∧ s'.cached = s.cached ∧ s'.runner = s.runner ∧
    s'.kills = s.kills ∧ s'.dirsCreated = s.dirsCreated ∧ s'.attempted = s.attempted ∧ s'.outs = s.outs ++ [.unit] := by
  -- each of the three only returns
  have hs : step P s e = some (emit (s, .unit)) := by
    rcases he with rfl | rfl | rfl <;> rfl
  cases hs.symm.trans h
  exact ⟨rfl, rfl, rfl, rfl, rfl, rfl, rfl, rfl⟩

/-- **A first Start that failed stays failed**: once a launch has been attempted and produced no address, every
further `Start` (with `Cmd` or `RunnerFunc`) returns an error and changes nothing — it neither launches again nor
creates a socket directory — whatever the new process would have done. -/
theorem failed_start_stays_failed (P : Params) (hP : P.Good) (s : State) (hsOk : Bool)
    (hl : s.launch = .cmd ∨ s.launch = .runnerFunc) (ha : s.attempted = true) (hn : s.addr = none) :
    doStart P s hsOk = (s, .err) := by
  unfold doStart
  rcases hl with hl | hl <;> simp [hP.retryGuard, hP.addrShortCircuit, hn, hl, ha]

/-- … and so do `Client()` and `Protocol()`, which go through `Start`: an error, nothing launched. -/
theorem failed_start_fails_client_and_protocol (P : Params) (hP : P.Good) (s : State) (hsOk connOk : Bool)
    (hl : s.launch = .cmd ∨ s.launch = .runnerFunc) (ha : s.attempted = true) (hn : s.addr = none) :
    step P s (.client hsOk connOk) = some (emit (s, .err)) ∧ step P s (.protocol hsOk) = some (emit (s, .err)) := by
  have h := failed_start_stays_failed P hP s hsOk hl ha hn
  simp [step, h]

/-- non-vacuity: the state after a failed first `Start` meets the hypotheses, and it is reachable -/
example : ∃ s, runFrom ⟨true, true, true, true, true, true, true⟩ (init .runnerFunc false) [.start false] = some s ∧
    s.attempted = true ∧ s.addr = none ∧ s.launch = .runnerFunc ∧ s.outs = [.err] :=
  exists_some_of_any (by decide)

/-- without the retry guard the hypothesis-meeting state DOES relaunch (a `RunnerFunc` client) -/
example : (doStart ⟨false, true, true, true, true, true, true⟩ { init .runnerFunc false with attempted := true } true).1.launches = 1 := by decide

/-! ### Witnesses: without the retry guard a custom runner is relaunched on every retry (former defect D10); then
without the address short-circuit, without the cached client, without the lock held throughout `Start` -/

def pNoGuard : Params := ⟨false, true, true, true, true, true, true⟩

def retryTrace : List Event := [.start false, .start false, .protocol false, .killA false false, .killB, .start false]

theorem relaunch_witness :
    ∃ s, runFrom pNoGuard (init .runnerFunc false) retryTrace = some s ∧ s.launches = 4 ∧ s.dirsCreated = 4 :=
  exists_some_of_any (by decide)

/-- with `Cmd` the retry is stopped only by `exec.Cmd` refusing a second pipe -/
example : ∃ s, runFrom pNoGuard (init .cmd false) retryTrace = some s ∧ s.launches = 1 :=
  exists_some_of_any (by decide)

/-- without the address short-circuit every Start relaunches -/
theorem no_short_circuit_witness :
    ∃ s, runFrom ⟨false, false, true, true, true, true, true⟩ (init .runnerFunc false) [.start true, .start true] = some s ∧ s.launches = 2 :=
  exists_some_of_any (by decide)

/-- without caching, two Client calls return different clients -/
theorem no_cache_witness :
    ∃ s, runFrom ⟨true, true, false, true, true, true, true⟩ (init .cmd false) [.client true true, .client true true] = some s ∧
      s.outs = [.okClient 0, .okClient 1] :=
  exists_some_of_any (by decide)

/-- a `Start` that lets go of the client lock between its checks and the launch: two overlapping Starts both
launch (two processes, two socket directories, two different addresses) -/
theorem raced_start_witness :
    ∃ s, runFrom ⟨true, true, true, true, true, true, false⟩ (init .runnerFunc false) [.start true, .startRaced true] = some s ∧
      s.launches = 2 ∧ s.dirsCreated = 2 ∧ s.outs = [.okAddr 0, .okAddr 1] :=
  exists_some_of_any (by decide)

/-- with the lock held throughout there is no such step -/
example : runFrom ⟨true, true, true, true, true, true, true⟩ (init .runnerFunc false) [.start true, .startRaced true] = none := by decide

def pGood : Params := ⟨true, true, true, true, true, true, true⟩
example : ∃ s, runFrom pGood (init .runnerFunc false) retryTrace = some s ∧ s.launches = 1 ∧ s.dirsLive = 0 :=
  exists_some_of_any (by decide)
example : ∃ s, runFrom pGood (init .cmd false) [.start true, .client true true, .start true, .killA true true, .killB, .client true true, .start true] = some s ∧
    s.outs = [.okAddr 0, .okClient 0, .okAddr 0, .unit, .okClient 0, .okAddr 0] ∧ s.launches = 1 :=
  exists_some_of_any (by decide)

end GoPlugin.Props.C19
