/-
`MuxBroker` (mux_broker.go) as a labelled transition system: one broker
endpoint receiving the streams opened by the peer's `Dial`s, its `Run` loop,
any number of `Accept(id)` callers and `timeoutWait` goroutines, the broker
mutex, the slot objects (`muxBrokerPending`) and a clock.

The scheduler is the quantifier over event sequences.  Sections of code that
hold the mutex and contain no blocking operation are single events that need
the mutex to be free; the one section that blocks while holding it
(`timeoutWait`'s receive without `default`) is split so that "blocked while
holding the lock" is a state.  The other direction of the same connection is
an independent instance of this system (yamux's accept queue and OpenStream
are per direction).
-/
namespace GoPlugin.MuxBroker

/-- Structural facts of the source (extracted, tie T-A). -/
structure Params where
  /-- the receive in `timeoutWait`'s expiry `select` has a `default` arm -/
  expiryRecvHasDefault : Bool
  /-- `timeoutWait` closes a connection left in the slot whether it timed out or was woken by `doneCh` -/
  expiryDrainsAlways : Bool
  /-- `Run` closes a stream it could not park (slot buffer full) -/
  runClosesDropped : Bool
  /-- after a failed read of a stream's id header `Run` closes that stream and goes on (it does not leave the loop) -/
  headerErrorContinues : Bool
  /-- capacity of `muxBrokerPending.ch` -/
  slotCap : Nat
  /-- `time.After` in `Accept` (ms) -/
  acceptWindow : Nat
  /-- `time.After` in `timeoutWait` (ms) -/
  expiryWindow : Nat
  deriving DecidableEq, Repr

def Params.Good (P : Params) : Prop :=
  P.expiryRecvHasDefault = true ∧ P.expiryDrainsAlways = true ∧ P.runClosesDropped = true ∧ P.headerErrorContinues = true ∧ P.slotCap = 1

instance (P : Params) : Decidable P.Good := by unfold Params.Good; exact inferInstance

/-- A `muxBrokerPending`: created by `getStream(id)`, never re-keyed. -/
structure Slot where
  id : Nat
  /-- the one-element channel buffer: a parked stream -/
  buf : Option Nat
  /-- `doneCh` closed -/
  done : Bool
  deriving DecidableEq, Repr

inductive StreamSt
  /-- opened by the peer, waiting in yamux's accept queue -/
  | queued
  /-- taken by `Run`, not yet parked -/
  | held
  /-- sitting in the buffer of slot `k` -/
  | parked (k : Nat)
  /-- received by Accept goroutine `g` -/
  | taken (g : Nat)
  /-- closed by the broker (the dialler's ack read fails: it returns an error) -/
  | closed
  /-- dropped by `Run` without being closed (the dialler waits for ever) -/
  | dropped
  deriving DecidableEq, Repr

structure Stream where
  /-- the id the dialler wrote as header -/
  id : Nat
  st : StreamSt
  deriving DecidableEq, Repr

inductive AccPc
  | wait
  /-- returned the stream `sid` (after writing the ack) -/
  | took (sid : Nat)
  /-- returned "timeout waiting for accept" -/
  | timedOut
  /-- `close(p.doneCh)` on a closed channel -/
  | panicked
  deriving DecidableEq, Repr

structure Acc where
  id : Nat
  slot : Nat
  deadline : Nat
  pc : AccPc
  deriving DecidableEq, Repr

inductive TwPc
  | wait
  /-- woke up; `timeout` tells by which arm -/
  | decided (timeout : Bool)
  /-- holding the mutex, blocked in a receive with no alternative -/
  | blocked
  | finished
  deriving DecidableEq, Repr

structure Tw where
  id : Nat
  slot : Nat
  deadline : Nat
  pc : TwPc
  deriving DecidableEq, Repr

inductive RunPc
  | idle
  /-- has `p := getStream(id)` (slot `k`) and the stream `sid` in hand -/
  | have (id k sid : Nat)
  /-- the loop has ended although the session is alive -/
  | dead
  deriving DecidableEq, Repr

/-- Finite maps are functions `Nat → Option α` together with an allocation
counter (indices ≥ the counter are unused); this keeps update/lookup reasoning
to `if`-`then`-`else`. -/
def upd {α : Type} (f : Nat → Option α) (i : Nat) (v : Option α) : Nat → Option α :=
  fun j => if j = i then v else f j

structure State where
  /-- `m.streams`: id ↦ slot index -/
  map : Nat → Option Nat
  slots : Nat → Option Slot
  nSlots : Nat
  streams : Nat → Option Stream
  nStreams : Nat
  accs : Nat → Option Acc
  nAccs : Nat
  tws : Nat → Option Tw
  nTws : Nat
  run : RunPc
  /-- yamux accept queue (stream indices, oldest first) -/
  queue : List Nat
  /-- index of the `timeoutWait` goroutine holding the mutex across a blocking receive -/
  lock : Option Nat
  now : Nat

def init : State :=
  ⟨fun _ => none, fun _ => none, 0, fun _ => none, 0, fun _ => none, 0, fun _ => none, 0, .idle, [], none, 0⟩

inductive Event
  /-- the peer's `Dial(id)` opened a stream and wrote its header -/
  | dial (id : Nat)
  /-- `Run`: `AcceptStream`, read the id, `getStream(id)` -/
  | runTake
  /-- `Run`: non-blocking send into the slot, `go timeoutWait` -/
  | runPark
  /-- a caller enters `Accept(id)`: `getStream(id)`, then waits -/
  | accept (id : Nat)
  /-- Accept goroutine `g` receives from its slot, closes `doneCh`, acks -/
  | accTake (g : Nat)
  /-- Accept goroutine `g`'s timer fires: lock, delete, unlock, return error -/
  | accTimeout (g : Nat)
  /-- `timeoutWait` `t` wakes on `doneCh` -/
  | twDone (t : Nat)
  /-- `timeoutWait` `t` wakes on its timer -/
  | twTimer (t : Nat)
  /-- `timeoutWait` `t`: lock, delete, (drain), unlock — or block holding the lock -/
  | twFinish (t : Nat)
  /-- a blocked `timeoutWait` receives at last -/
  | twUnblock (t : Nat)
  /-- the peer opened a stream and closed it before writing the id header; `Run` accepts it and the read fails -/
  | abort
  /-- time passes -/
  | tick (d : Nat)
  deriving DecidableEq, Repr

/-- `getStream(id)`: existing slot or a fresh one. -/
def getStream (s : State) (id : Nat) : State × Nat :=
  match s.map id with
  | some k => (s, k)
  | none =>
    ({ s with map := upd s.map id (some s.nSlots),
              slots := upd s.slots s.nSlots (some ⟨id, none, false⟩),
              nSlots := s.nSlots + 1 }, s.nSlots)

def setStream (s : State) (sid : Nat) (st : StreamSt) : State :=
  { s with streams := upd s.streams sid ((s.streams sid).map fun x => { x with st := st }) }

def setSlot (s : State) (k : Nat) (f : Slot → Slot) : State :=
  { s with slots := upd s.slots k ((s.slots k).map f) }

def setAcc (s : State) (g : Nat) (pc : AccPc) : State :=
  { s with accs := upd s.accs g ((s.accs g).map fun x => { x with pc := pc }) }

def setTw (s : State) (t : Nat) (pc : TwPc) : State :=
  { s with tws := upd s.tws t ((s.tws t).map fun x => { x with pc := pc }) }

/-- close whatever is parked in slot `k` -/
def drain (s : State) (k : Nat) : State :=
  match s.slots k with
  | some sl =>
    match sl.buf with
    | some sid => setStream (setSlot s k (fun x => { x with buf := none })) sid .closed
    | none => s
  | none => s

def step (P : Params) (s : State) : Event → Option State
  | .dial id =>
    some { s with streams := upd s.streams s.nStreams (some ⟨id, .queued⟩), nStreams := s.nStreams + 1,
                  queue := s.queue ++ [s.nStreams] }
  | .runTake =>
    match s.run, s.queue, s.lock with
    | .idle, sid :: q, none =>
      match s.streams sid with
      | some x =>
        let r := getStream { s with queue := q } x.id
        some (setStream { r.1 with run := .have x.id r.2 sid } sid .held)
      | none => none
    | _, _, _ => none
  | .runPark =>
    match s.run with
    | .have id k sid =>
      match s.slots k with
      | some sl =>
        let s1 := { s with run := .idle, tws := upd s.tws s.nTws (some ⟨id, k, s.now + P.expiryWindow, .wait⟩),
                           nTws := s.nTws + 1 }
        match sl.buf with
        | none => some (setStream (setSlot s1 k (fun x => { x with buf := some sid })) sid (.parked k))
        | some _ => some (setStream s1 sid (if P.runClosesDropped then .closed else .dropped))
      | none => none
    | _ => none
  | .abort =>
    match s.run with
    | .idle => some (if P.headerErrorContinues then s else { s with run := .dead })
    | _ => none
  | .accept id =>
    match s.lock with
    | none =>
      let r := getStream s id
      some { r.1 with accs := upd r.1.accs s.nAccs (some ⟨id, r.2, s.now + P.acceptWindow, .wait⟩),
                      nAccs := s.nAccs + 1 }
    | some _ => none
  | .accTake g =>
    match s.accs g with
    | some a =>
      match a.pc, s.slots a.slot with
      | .wait, some sl =>
        match sl.buf with
        | some sid =>
          if sl.done then some (setAcc (setSlot s a.slot (fun x => { x with buf := none })) g .panicked)
          else some (setAcc (setStream (setSlot s a.slot (fun x => { x with buf := none, done := true })) sid (.taken g)) g (.took sid))
        | none => none
      | _, _ => none
    | none => none
  | .accTimeout g =>
    match s.accs g, s.lock with
    | some a, none =>
      if a.pc = .wait ∧ a.deadline ≤ s.now then
        some (setAcc { s with map := upd s.map a.id none } g .timedOut)
      else none
    | _, _ => none
  | .twDone t =>
    match s.tws t with
    | some w =>
      match w.pc, s.slots w.slot with
      | .wait, some sl => if sl.done then some (setTw s t (.decided false)) else none
      | _, _ => none
    | none => none
  | .twTimer t =>
    match s.tws t with
    | some w => if w.pc = .wait ∧ w.deadline ≤ s.now then some (setTw s t (.decided true)) else none
    | none => none
  | .twFinish t =>
    match s.tws t, s.lock with
    | some w, none =>
      match w.pc, s.slots w.slot with
      | .decided timeout, some sl =>
        let s1 := { s with map := upd s.map w.id none }
        if timeout || P.expiryDrainsAlways then
          match sl.buf with
          | some _ => some (setTw (drain s1 w.slot) t .finished)
          | none =>
            if P.expiryRecvHasDefault then some (setTw s1 t .finished)
            else some (setTw { s1 with lock := some t } t .blocked)
        else some (setTw s1 t .finished)
      | _, _ => none
    | _, _ => none
  | .twUnblock t =>
    match s.tws t, s.lock with
    | some w, some h =>
      if h = t ∧ w.pc = .blocked then
        match s.slots w.slot with
        | some sl =>
          match sl.buf with
          | some _ => some (setTw { (drain s w.slot) with lock := none } t .finished)
          | none => none
        | none => none
      else none
    | _, _ => none
  | .tick d => some { s with now := s.now + d }

def runFrom (P : Params) : State → List Event → Option State
  | s, [] => some s
  | s, e :: es =>
    match step P s e with
    | some s' => runFrom P s' es
    | none => none

def Reachable (P : Params) (s : State) : Prop := ∃ es, runFrom P init es = some s

/-! ### facts behind two modelling decisions of the transition system above -/

/-- `accTimeout` is ONE step that leaves the mutex free, and the slot map of a side belongs to its ACCEPTS -/
structure AcceptParams where
  /-- the timer arm of `Accept`'s select is straight-line — Lock, deferred Unlock, delete, return: no channel operation,
  no `select`, no loop, nothing that can wait while the mutex is held -/
  timeoutArmStraight : Bool
  /-- `delete(m.streams, …)` occurs only in that arm and in `timeoutWait`: an ESTABLISHED connection's slot is left to the
  expiry goroutine, and `Dial` never touches the map (the IDs a side dials and the IDs it accepts are number spaces of
  their own: each broker's `NextId` counts from 1) -/
  mapOwnedByAcceptSide : Bool
  deriving DecidableEq, Repr

def AcceptParams.Good (A : AcceptParams) : Prop := A.timeoutArmStraight = true ∧ A.mapOwnedByAcceptSide = true
instance (A : AcceptParams) : Decidable A.Good := by unfold AcceptParams.Good; exact inferInstance

/-- is the mutex free again after an `Accept` has timed out?  (`nothingParked`: the ordinary case — no stream arrived at
the last moment; an arm that WAITS for one then waits for ever, with the mutex) -/
def timeoutReleasesLock (A : AcceptParams) (nothingParked : Bool) : Bool := A.timeoutArmStraight || !nothingParked

/-- this side has an `Accept(m)` waiting on its slot; it then completes a `Dial(n)` (the peer's number `n`).  Is the
accept's slot still registered under `m`? -/
def acceptSlotAfterDial (A : AcceptParams) (n m : Nat) : Bool := A.mapOwnedByAcceptSide || n != m

end GoPlugin.MuxBroker
