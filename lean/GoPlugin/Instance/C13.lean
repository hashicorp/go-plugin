import GoPlugin.Props.C13
import GoPlugin.Generated.Facts
/-
C13 instantiated at the facts extracted from the current source (tie T-A):
the obligation `facts_good` is re-checked on every run.
-/
namespace GoPlugin.Instance.C13
open Secure Props.C13

/-- The current `Client.Start` rejects Reattach+SecureConfig first, calls
`SecureConfig.Check(cmd.Path)` before the runner is created or started, and
returns a non-nil error on each of the two failure arms. -/
theorem facts_good : Facts.secure.Good := by decide

theorem holds_launch_iff_match (c : Config) (e : Ext) (s : SecureCfg)
    (hs : c.secure = some s) (hw : s.written = []) (hc : Launching c) (hr : e.runnerOk = true) :
    (startSecure Facts.secure c e).launched = true ↔
      s.checksum ≠ [] ∧ s.hashNil = false ∧ ∃ b, e.file = .data b ∧ e.hash b = s.checksum :=
  launch_iff_match _ facts_good c e s hs hw hc hr

theorem holds_launch_only_if_match (c : Config) (e : Ext) (s : SecureCfg)
    (hs : c.secure = some s) (hw : s.written = []) :
    (startSecure Facts.secure c e).launched = true → Matches s e ∧ Launching c ∧ e.runnerOk = true :=
  launch_only_if_match _ facts_good c e s hs hw

theorem holds_check_before_launch (c : Config) (e : Ext) (s : SecureCfg) (hs : c.secure = some s) :
    let t := (startSecure Facts.secure c e).trace
    t = [] ∨ (∃ r, t = [.check r]) ∨ t = [.check (.ok true), .launch] :=
  check_before_launch _ facts_good c e s hs

theorem check_facts_good : Facts.secureCheck.Good := by decide

theorem holds_whole_file_hashed (b : Bytes) : Secure.hashedPart Facts.secureCheck b = b :=
  Props.C13.whole_file_hashed _ check_facts_good b

theorem holds_given_checksum_compared (norm : Bytes → Bytes) (given : Bytes) :
    Secure.comparedSum Facts.secureCheck norm given = given :=
  Props.C13.given_checksum_compared _ check_facts_good norm given

end GoPlugin.Instance.C13
